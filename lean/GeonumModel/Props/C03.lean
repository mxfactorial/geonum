/-
  C03 — Angle addition conserves the quarter-turn count (angles add).

  Tiers: G = any arithmetic; S = any arithmetic satisfying `FloatSpec` (IEEE contract); E = exact reals; R = the rounding arithmetic
  `R64` (round-to-nearest on the binary64 grid).
  `T a = blade·(π/2) + rem` is the total, with the machine's own π/2 (`val qp`).
-/
import GeonumModel.Spec.RealWitness
import GeonumModel.Spec.RoundWitness
import GeonumModel.Lemmas.AngleAdd

namespace GeonumModel.C03
open GeonumModel FloatLike FloatSpec Angle

/-- total angle in radians, with the format's own quarter turn -/
noncomputable def T {F : Type} [FloatSpec F] (a : Angle F) : ℝ := (a.blade : ℝ) * val (qp : F) + val a.rem

section G
variable {F : Type} [FloatLike F]

/-- (G) all 12 operator spellings (+, *, rotate × ownership forms) are the same function -/
theorem spellings (a b : Angle F) :
    addVR a b = addVV a b ∧ addRV a b = addVV a b ∧ addRR a b = addVV a b ∧
    mulVV a b = addVV a b ∧ mulVR a b = addVV a b ∧ mulRV a b = addVV a b ∧ mulRR a b = addVV a b ∧
    a.rotate b = addVV a b ∧ addVV a b = a.geometricAdd b :=
  ⟨rfl, rfl, rfl, rfl, rfl, rfl, rfl, rfl, rfl⟩

/-- (G) commutativity of the sum is inherited bit-for-bit from commutativity of the one float addition it performs -/
theorem add_comm_of_fadd_comm (a b : Angle F) (h : fadd a.rem b.rem = fadd b.rem a.rem) :
    a.geometricAdd b = b.geometricAdd a :=
  geometricAdd_comm_of_fadd_comm a b h
end G

section S
variable {F : Type} [FloatSpec F]

/-- (S) addition is commutative as a structure equality — bit-for-bit on binary64 -/
theorem add_comm {a b : Angle F} (ha : Fin a.rem) (hb : Fin b.rem) :
    a.geometricAdd b = b.geometricAdd a :=
  add_comm_of_fadd_comm a b (fadd_comm ha hb)

/-- (S) the sum of two canonical angles is canonical -/
theorem add_inv {a b : Angle F} (ha : a.Inv) (hb : b.Inv) : (a.geometricAdd b).Inv :=
  geometricAdd_inv ha hb

/-- (S) blade counts add exactly, with at most one carry -/
theorem add_blade {a b : Angle F} (ha : a.Inv) (hb : b.Inv) :
    (a.geometricAdd b).blade = a.blade + b.blade ∨ (a.geometricAdd b).blade = a.blade + b.blade + 1 :=
  geometricAdd_blade ha hb

/-- (S/B) the total of the sum is the sum of the totals to within the 1e-10 boundary tolerance plus the rounding
    of one addition (`< 1e-15`) — for every blade count, no bound -/
theorem add_total {a b : Angle F} (ha : a.Inv) (hb : b.Inv) :
    |T (a.geometricAdd b) - (T a + T b)| < val (e10 : F) + 1 / 10 ^ 15 :=
  (geometricAdd_total ha hb).1

/-- (S) the zero angle is an exact right identity: same blade, same remainder value -/
theorem add_zero_right {a : Angle F} (ha : a.Inv) (z : Angle F) (hz : z = ⟨zero, 0⟩) :
    (a.geometricAdd z).blade = a.blade ∧ val (a.geometricAdd z).rem = val a.rem := by
  subst hz
  obtain ⟨hb, _, hv⟩ := add_whole ha (z := ⟨zero, 0⟩) fin_zero val_zero
  exact ⟨hb, hv⟩

theorem T_whole_add {a z : Angle F} (ha : a.Inv) (hzf : Fin z.rem) (hz0 : val z.rem = 0) :
    T (z.geometricAdd a) = T z + T a := by
  obtain ⟨h1, _, h2⟩ := whole_add ha hzf hz0
  unfold T; rw [h1, h2, hz0]; push_cast; ring

/-- (S/B) a bracketing of three summands is off from the sum of the three totals by at most ONE snap (`1e-10`) plus two roundings:
    if the first sum snapped, its remainder is 0 and the second addition is exact -/
theorem add3_total_left {a b c : Angle F} (ha : a.Inv) (hb : b.Inv) (hc : c.Inv) :
    |T ((a.geometricAdd b).geometricAdd c) - (T a + T b + T c)| < val (e10 : F) + 2 / 10 ^ 15 := by
  have hu : (1:ℝ) / 10 ^ 15 + 1 / 10 ^ 15 = 2 / 10 ^ 15 := by norm_num
  obtain ⟨h1, hz | hex⟩ := geometricAdd_total ha hb
  · rw [T_whole_add hc (add_inv ha hb).1 hz, add_sub_add_right_eq_sub]
    exact h1.trans (by linarith)
  · have e : T ((a.geometricAdd b).geometricAdd c) - (T a + T b + T c) =
        (T ((a.geometricAdd b).geometricAdd c) - (T (a.geometricAdd b) + T c)) + (T (a.geometricAdd b) - (T a + T b)) := by
      ring
    rw [e, ← hu, ← add_assoc]
    exact (abs_add_le _ _).trans_lt (add_lt_add (add_total (add_inv ha hb) hc) hex)

theorem add3_total_right {a b c : Angle F} (ha : a.Inv) (hb : b.Inv) (hc : c.Inv) :
    |T (a.geometricAdd (b.geometricAdd c)) - (T a + T b + T c)| < val (e10 : F) + 2 / 10 ^ 15 := by
  have h := add3_total_left hb hc ha
  rwa [add_comm (add_inv hb hc).1 ha.1, show T b + T c + T a = T a + T b + T c by ring] at h

/-- (S/B) **associativity up to twice the tolerance**: the two bracketings differ in total by less than `2·(1e-10 + 2e-15)` -/
theorem add_assoc_total {a b c : Angle F} (ha : a.Inv) (hb : b.Inv) (hc : c.Inv) :
    |T ((a.geometricAdd b).geometricAdd c) - T (a.geometricAdd (b.geometricAdd c))|
      < 2 * (val (e10 : F) + 2 / 10 ^ 15) := by
  have h2 := add3_total_right ha hb hc
  rw [abs_sub_comm] at h2
  rw [two_mul]
  exact (abs_sub_le _ _ _).trans_lt (add_lt_add (add3_total_left ha hb hc) h2)

end S

section E
/-- (E) in exact arithmetic the total of the sum is within the boundary tolerance of the sum of totals -/
theorem add_total_exact {a b : Angle ℝ} (ha : a.Inv) (hb : b.Inv) :
    |T (a.geometricAdd b) - (T a + T b)| < (1 : ℝ) / 10 ^ 10 + 1 / 10 ^ 15 := by
  have h := add_total ha hb
  have : val (e10 : ℝ) = 1 / 10 ^ 10 := by
    rw [e10_spec.2]; rfl
  rwa [this] at h
end E

/-! non-vacuity: concrete values meeting the hypotheses -/
example {F : Type} [FloatSpec F] : (⟨zero, 5⟩ : Angle F).Inv := inv_zero 5
example : (⟨(1:ℝ), 7⟩ : Angle ℝ).Inv := by
  refine ⟨trivial, by norm_num [val], ?_⟩
  have h1 := val_e10_small (F := ℝ); have h2 := val_qp_gt (F := ℝ)
  have : (1:ℝ) / 10 ^ 9 ≤ 1 / 2 := by norm_num
  show (1:ℝ) + _ ≤ _
  linarith

section R

/-- (R) angle addition on binary64 remainders: bitwise commutative, and associative up to twice the tolerance -/
theorem add_comm_assoc_rounded {a b c : Angle R64} (ha : a.Inv) (hb : b.Inv) (hc : c.Inv) :
    a.geometricAdd b = b.geometricAdd a ∧
    |T ((a.geometricAdd b).geometricAdd c) - T (a.geometricAdd (b.geometricAdd c))| < 2 * ((e10 : R64).v + 2 / 10 ^ 15) :=
  ⟨add_comm (F := R64) trivial trivial, add_assoc_total (F := R64) ha hb hc⟩

end R

end GeonumModel.C03
