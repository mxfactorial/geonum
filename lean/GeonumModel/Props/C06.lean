/-
  C06 — Sum and difference equal the Cartesian vector sum and difference.
-/
import GeonumModel.Model.Traits
import GeonumModel.Spec.RoundWitness
import GeonumModel.Lemmas.ExactAdd
import GeonumModel.Lemmas.FloatMetric
import GeonumModel.Lemmas.FloatSumSpecial

namespace GeonumModel.C06
open GeonumModel FloatLike FloatSpec Angle Geonum

section G
variable {F : Type} [FloatLike F]

/-- (G) subtraction is adding the half-turned operand; every by-value / by-reference form and the affine `translate`
    helper are the same function -/
theorem sub_and_spellings (a b : Geonum F) :
    a.sub b = a.add b.negate ∧ a.addRR b = a.add b ∧ a.addRV b = a.add b ∧ a.addVR b = a.add b ∧
    a.subRR b = a.sub b ∧ a.subRV b = a.sub b ∧ a.subVR b = a.sub b ∧ Affine.translate a b = a.add b :=
  ⟨rfl, rfl, rfl, rfl, rfl, rfl, rfl, rfl⟩
end G

section S
variable {F : Type} [FloatSpec F]

/-- (S) `a − a` has magnitude exactly `0.0` (the opposite-angle branch with cancelling magnitudes) -/
theorem sub_self_mag {a : Geonum F} (hm : Fin a.mag) (ha : a.angle.Inv) : (a.sub a).mag = zero := by
  rw [Geonum.sub_self_eq hm ha]

/-- (S) **never NaN, never negative**: for operands of the property domain (magnitudes finite in `[0, 1e100]`, canonical
    angles) every branch of `+` returns a finite non-negative magnitude.  The general branch relies on the clamp of the
    radicand at zero (fix 05011a7); without it the statement is false. -/
theorem add_mag_finite_nonneg {a b : Geonum F} (ha : a.MagDom) (hb : b.MagDom) (hai : a.angle.Inv) (hbi : b.angle.Inv) :
    Fin (a.add b).mag ∧ 0 ≤ val (a.add b).mag :=
  add_mag_ok' ha hb hai hbi

/-- (S) the same for subtraction -/
theorem sub_mag_finite_nonneg {a b : Geonum F} (ha : a.MagDom) (hb : b.MagDom) (hai : a.angle.Inv) (hbi : b.angle.Inv) :
    Fin (a.sub b).mag ∧ 0 ≤ val (a.sub b).mag :=
  sub_mag_ok' ha hb hai hbi

/-- (S) a zero-magnitude operand with the same angle leaves the other's magnitude value and angle unchanged -/
theorem add_zero_same_angle {a : Geonum F} (hm : Fin a.mag) (ha : a.angle.Inv) :
    (a.add ⟨zero, a.angle⟩).angle = a.angle ∧ val (a.add ⟨zero, a.angle⟩).mag = val a.mag := by
  have h : sameAngle a ⟨zero, a.angle⟩ = true := Angle.beq_self ha.1
  rw [add_same a _ h]
  refine ⟨rfl, ?_⟩
  show val (fadd a.mag zero) = _
  rw [(fadd_spec hm (fin_zero (F := F)) (by rw [val_zero, add_zero]; exact inRange_val hm)).2, val_zero, add_zero, rnd_val hm]

end S

/-! ### E-tier: exact arithmetic — the sum IS the Cartesian sum -/
section E
open GeonumModel.Exact

/-- (E) **main refinement**: for canonical operands with non-negative magnitudes and a blade sum up to `2^40`, whichever of the
    code paths applies (identical angles, a half turn apart with or without cancellation, or the general law-of-cosines /
    `atan2` path with its re-encoding on top of the blade sum), the Cartesian point of `a + b` is the component-wise sum of the
    operands' points to within `1e-10·(1 + |a| + |b|)` -/
theorem add_is_cartesian_sum {a b : Geonum ℝ} (ha : a.angle.Inv) (hb : b.angle.Inv) (h0a : 0 ≤ a.mag) (h0b : 0 ≤ b.mag)
    (hcb : a.angle.blade + b.angle.blade ≤ 2 ^ 40) :
    ‖cart (a.add b) - (cart a + cart b)‖ ≤ 1 / 10 ^ 10 * (1 + a.mag + b.mag) :=
  add_refines ha hb h0a h0b hcb

/-- (E) the difference is the Cartesian difference, same tolerance -/
theorem sub_is_cartesian_difference {a b : Geonum ℝ} (ha : a.angle.Inv) (hb : b.angle.Inv) (h0a : 0 ≤ a.mag) (h0b : 0 ≤ b.mag)
    (hcb : a.angle.blade + (b.angle.blade + 2) ≤ 2 ^ 40) :
    ‖cart (a.sub b) - (cart a - cart b)‖ ≤ 1 / 10 ^ 10 * (1 + a.mag + b.mag) :=
  sub_refines ha hb h0a h0b hcb

/-- (E) `a + b` and `b + a` denote the same point to within twice the tolerance -/
theorem add_comm_cartesian {a b : Geonum ℝ} (ha : a.angle.Inv) (hb : b.angle.Inv) (h0a : 0 ≤ a.mag) (h0b : 0 ≤ b.mag)
    (hcb : a.angle.blade + b.angle.blade ≤ 2 ^ 40) :
    ‖cart (a.add b) - cart (b.add a)‖ ≤ 2 * (1 / 10 ^ 10 * (1 + a.mag + b.mag)) := by
  have h1 := add_refines ha hb h0a h0b hcb
  have h2 := add_refines hb ha h0b h0a (by rw [Nat.add_comm]; exact hcb)
  rw [add_comm (cart b), add_right_comm 1] at h2
  exact (norm_sub_le_of_near h1 h2).trans (two_mul _).ge

/-- (E) a zero-magnitude operand leaves the other's vector unchanged (within the tolerance), whatever its angle -/
theorem add_zero_operand {a z : Geonum ℝ} (ha : a.angle.Inv) (hz : z.angle.Inv) (h0a : 0 ≤ a.mag) (hzm : z.mag = 0)
    (hcb : a.angle.blade + z.angle.blade ≤ 2 ^ 40) :
    ‖cart (a.add z) - cart a‖ ≤ 1 / 10 ^ 10 * (1 + a.mag) := by
  have h := add_refines ha hz h0a (by rw [hzm]) hcb
  have hcz : cart z = 0 := by show polar z.mag _ = 0; rw [hzm, polar_zero]
  rw [hcz, add_zero, hzm, add_zero] at h
  exact h

/-- a running sum stays inside the domain: at every step the accumulator and the next term are canonical with non-negative
    magnitudes and a blade sum of at most `2^40` ("for as long as they stay inside these bounds") -/
def RunOK : Geonum ℝ → List (Geonum ℝ) → Prop
  | _, [] => True
  | acc, x :: xs => acc.angle.Inv ∧ x.angle.Inv ∧ 0 ≤ acc.mag ∧ 0 ≤ x.mag ∧ acc.angle.blade + x.angle.blade ≤ 2 ^ 40 ∧
      RunOK (acc.add x) xs

/-- the accumulated tolerance of a running sum: one addition tolerance per step, each scaled by the magnitudes at that step -/
noncomputable def runTol : Geonum ℝ → List (Geonum ℝ) → ℝ
  | _, [] => 0
  | acc, x :: xs => 1 / 10 ^ 10 * (1 + acc.mag + x.mag) + runTol (acc.add x) xs

/-- (E) **running sums**: folding `+` over any sequence reproduces the component-wise sum of all the Cartesian points to within the
    accumulated tolerance — by induction over the sequence, any length -/
theorem running_sum_cartesian (l : List (Geonum ℝ)) (acc : Geonum ℝ) (h : RunOK acc l) :
    ‖cart (l.foldl Geonum.add acc) - (cart acc + (l.map cart).sum)‖ ≤ runTol acc l := by
  induction l generalizing acc with
  | nil => simp [runTol]
  | cons x xs ih =>
    obtain ⟨ha, hx, h0a, h0x, hcb, hrest⟩ := h
    simp only [List.foldl_cons, List.map_cons, List.sum_cons, runTol]
    exact norm_sub_add_step (ih _ hrest) (add_refines ha hx h0a h0x hcb)

end E

section B
variable {F : Type} [FloatSpec F]

/-- (B) **the magnitude of a general-branch sum in rounded arithmetic**: it is within `(|a|+|b|)·(2⁻²⁴ + 2⁻⁵⁰) + 1e-90` of the exact
    law-of-cosines magnitude `√(|a|² + |b|² + 2|a||b|c)` for the cosine value `c` the code obtained — i.e. a bound of the order of
    `√ε` times the operand scale, which is attained only under near-total cancellation (the radicand's absolute error is `≈ 10ε(|a|+|b|)²`
    and the square root turns an absolute error `η` near zero into `√η`).  Covers all seven roundings of the radicand, the clamp at
    zero of fix 05011a7 and the rounding of the square root. -/
theorem sum_mag_float {a b : Geonum F} (ha : a.MagDom) (hb : b.MagDom)
    (hg : Fin (fsub b.angle.gradeAngle a.angle.gradeAngle))
    (h1 : sameAngle a b = false) (h2 : oppositeAngle a b = false) :
    |val (a.add b).mag - Real.sqrt (val a.mag * val a.mag + val b.mag * val b.mag
        + 2 * val a.mag * val b.mag * val (FloatLike.cos (fsub b.angle.gradeAngle a.angle.gradeAngle)))|
      ≤ (val a.mag + val b.mag) * (1 / 2 ^ 24 + 1 / 2 ^ 50) + 1 / 10 ^ 90 :=
  Geonum.sum_mag_float ha hb hg h1 h2

/-- (B) **direction of the sum in rounded arithmetic, general branch**: for canonical operands with in-domain magnitudes and combined
    blade count `cb ≤ 2^39`, the float total of `a + b` is the libm `atan2` of the rounded component sums
    `(Σ |g|·sin, Σ |g|·cos)` plus a whole number of turns, to within `1e-10 + (40·cb + 140)·2⁻⁵³` — through the rounded blade
    shift `(cb·π)/2`, the subtraction, the constructor's `·π/π` in either order, its negative path (`ceil`, `+ 4n·qp`, clamp), the exact
    `fmod`, the snap and the final whole-blade addition.  Together with `sum_mag_float` (magnitude) this is the Cartesian-sum clause
    in rounded arithmetic up to the accuracy of the two component sums themselves. -/
theorem sum_direction_float {a b : Geonum F} (ha : a.angle.Inv) (hb : b.angle.Inv) (hma : a.MagDom) (hmb : b.MagDom)
    (hcb : a.angle.blade + b.angle.blade ≤ 2 ^ 39) (h1 : sameAngle a b = false) (h2 : oppositeAngle a b = false) :
    ∃ n : ℕ, |Angle.Tq (a.add b).angle - (val (FloatLike.atan2 (oppSum a b) (adjSum a b)) + (n : ℝ) * (4 * val (qp : F)))|
      < val (e10 : F) + (40 * ((a.angle.blade + b.angle.blade : ℕ) : ℝ) + 140) * (1 / 2 ^ 53) + 1 / 10 ^ 298 :=
  Geonum.add_general_direction_float ha hb hma hmb hcb h1 h2

/-- (B) **the Cartesian-sum clause in rounded arithmetic, general branch**: the Cartesian components of `a + b` (angles in true
    radians) are the component-wise sums of the operands' Cartesian components to within
    `(|a|+|b|)·(2e-7 + 1.1·(1e-10 + (40·cb + 170)·2⁻⁵³)) + 1e-28` — the `√ε`-of-scale magnitude term (attained only under
    near-total cancellation) plus the direction error (boundary snap + blade re-encoding) times the length.  Assembled from the rounded
    component sums, the law-of-cosines magnitude, the libm `atan2` (incl. the negative real axis, where the sign of a zero decides `±π`)
    and the constructor's re-encoding (both signs of the adjusted angle). -/
theorem sum_cartesian_float {a b : Geonum F} (ha : a.angle.Inv) (hb : b.angle.Inv) (hma : a.MagDom) (hmb : b.MagDom)
    (hcb : a.angle.blade + b.angle.blade ≤ 2 ^ 39) (h1 : sameAngle a b = false) (h2 : oppositeAngle a b = false) :
    |val (a.add b).mag * Real.cos (Angle.Tpi (a.add b).angle)
        - (val a.mag * Real.cos (Angle.Tpi a.angle) + val b.mag * Real.cos (Angle.Tpi b.angle))|
      ≤ (val a.mag + val b.mag) * (2 / 10 ^ 7 + 11 / 10 * (val (e10 : F)
          + (40 * ((a.angle.blade + b.angle.blade : ℕ) : ℝ) + 170) * (1 / 2 ^ 53))) + 1 / 10 ^ 28 ∧
    |val (a.add b).mag * Real.sin (Angle.Tpi (a.add b).angle)
        - (val a.mag * Real.sin (Angle.Tpi a.angle) + val b.mag * Real.sin (Angle.Tpi b.angle))|
      ≤ (val a.mag + val b.mag) * (2 / 10 ^ 7 + 11 / 10 * (val (e10 : F)
          + (40 * ((a.angle.blade + b.angle.blade : ℕ) : ℝ) + 170) * (1 / 2 ^ 53))) + 1 / 10 ^ 28 :=
  Geonum.sum_cartesian_float ha hb hma hmb hcb h1 h2

/-- (B) **identical angles, rounded arithmetic**: the Cartesian components of `a + b` are the component-wise sums within
    `(|a|+|b|)·(2⁻⁵³ + 1e-15) + 2⁻¹⁰⁷⁵` — one rounding of `|a| + |b|`, and the equality test's own tolerance on the remainders -/
theorem sum_cartesian_same_float {a b : Geonum F} (ha : a.angle.Inv) (hb : b.angle.Inv) (hma : a.MagDom) (hmb : b.MagDom)
    (h : sameAngle a b = true) :
    |val (a.add b).mag * Real.cos (Angle.Tpi (a.add b).angle)
        - (val a.mag * Real.cos (Angle.Tpi a.angle) + val b.mag * Real.cos (Angle.Tpi b.angle))|
      ≤ (val a.mag + val b.mag) * (1 / 2 ^ 53 + val (e15 : F)) + 1 / 2 ^ 1075 ∧
    |val (a.add b).mag * Real.sin (Angle.Tpi (a.add b).angle)
        - (val a.mag * Real.sin (Angle.Tpi a.angle) + val b.mag * Real.sin (Angle.Tpi b.angle))|
      ≤ (val a.mag + val b.mag) * (1 / 2 ^ 53 + val (e15 : F)) + 1 / 2 ^ 1075 :=
  Geonum.sum_cartesian_same_float ha hb hma hmb h

/-- (B) **a half turn apart, rounded arithmetic**: in all three sub-cases (cancellation below `1e-10`, first operand larger, second
    operand larger) the Cartesian components of `a + b` are the component-wise sums within `(|a|+|b|)·(2⁻⁵³ + 1e-15) + 2·1e-10`
    (a difference below the cancellation threshold is replaced by zero: that is the absolute term) -/
theorem sum_cartesian_opposite_float {a b : Geonum F} (ha : a.angle.Inv) (hb : b.angle.Inv) (hma : a.MagDom) (hmb : b.MagDom)
    (h1 : sameAngle a b = false) (h2 : oppositeAngle a b = true) :
    |val (a.add b).mag * Real.cos (Angle.Tpi (a.add b).angle)
        - (val a.mag * Real.cos (Angle.Tpi a.angle) + val b.mag * Real.cos (Angle.Tpi b.angle))|
      ≤ (val a.mag + val b.mag) * (1 / 2 ^ 53 + val (e15 : F)) + 2 * val (e10 : F) ∧
    |val (a.add b).mag * Real.sin (Angle.Tpi (a.add b).angle)
        - (val a.mag * Real.sin (Angle.Tpi a.angle) + val b.mag * Real.sin (Angle.Tpi b.angle))|
      ≤ (val a.mag + val b.mag) * (1 / 2 ^ 53 + val (e15 : F)) + 2 * val (e10 : F) :=
  Geonum.sum_cartesian_opposite_float ha hb hma hmb h1 h2

/-- (B) **addition is the Cartesian sum in rounded arithmetic, in EVERY branch**: for all canonical operands with magnitudes in the C01
    domain and combined blade count `cb ≤ 2^39`, whichever of the three branches `+` takes, both Cartesian components of the result are
    the component-wise sums within the general-branch bound plus the cancellation threshold `2·1e-10` -/
theorem sum_cartesian_every_branch_float {a b : Geonum F} (ha : a.angle.Inv) (hb : b.angle.Inv) (hma : a.MagDom) (hmb : b.MagDom)
    (hcb : a.angle.blade + b.angle.blade ≤ 2 ^ 39) :
    |val (a.add b).mag * Real.cos (Angle.Tpi (a.add b).angle)
        - (val a.mag * Real.cos (Angle.Tpi a.angle) + val b.mag * Real.cos (Angle.Tpi b.angle))|
      ≤ (val a.mag + val b.mag) * (2 / 10 ^ 7 + 11 / 10 * (val (e10 : F)
          + (40 * ((a.angle.blade + b.angle.blade : ℕ) : ℝ) + 170) * (1 / 2 ^ 53))) + 1 / 10 ^ 28 + 2 * val (e10 : F) ∧
    |val (a.add b).mag * Real.sin (Angle.Tpi (a.add b).angle)
        - (val a.mag * Real.sin (Angle.Tpi a.angle) + val b.mag * Real.sin (Angle.Tpi b.angle))|
      ≤ (val a.mag + val b.mag) * (2 / 10 ^ 7 + 11 / 10 * (val (e10 : F)
          + (40 * ((a.angle.blade + b.angle.blade : ℕ) : ℝ) + 170) * (1 / 2 ^ 53))) + 1 / 10 ^ 28 + 2 * val (e10 : F) :=
  Geonum.sum_cartesian_every_branch_float ha hb hma hmb hcb

/-- (B) **`a + b` and `b + a` are the same point in rounded arithmetic, in every branch**: their Cartesian components differ by at most
    twice the every-branch bound (in the general branch the two results are even bit-identical: `C14.general_branch_angle_symmetric`) -/
theorem sum_comm_cartesian_float {a b : Geonum F} (ha : a.angle.Inv) (hb : b.angle.Inv) (hma : a.MagDom) (hmb : b.MagDom)
    (hcb : a.angle.blade + b.angle.blade ≤ 2 ^ 39) :
    |val (a.add b).mag * Real.cos (Angle.Tpi (a.add b).angle) - val (b.add a).mag * Real.cos (Angle.Tpi (b.add a).angle)|
      ≤ 2 * ((val a.mag + val b.mag) * (2 / 10 ^ 7 + 11 / 10 * (val (e10 : F)
          + (40 * ((a.angle.blade + b.angle.blade : ℕ) : ℝ) + 170) * (1 / 2 ^ 53))) + 1 / 10 ^ 28 + 2 * val (e10 : F)) ∧
    |val (a.add b).mag * Real.sin (Angle.Tpi (a.add b).angle) - val (b.add a).mag * Real.sin (Angle.Tpi (b.add a).angle)|
      ≤ 2 * ((val a.mag + val b.mag) * (2 / 10 ^ 7 + 11 / 10 * (val (e10 : F)
          + (40 * ((a.angle.blade + b.angle.blade : ℕ) : ℝ) + 170) * (1 / 2 ^ 53))) + 1 / 10 ^ 28 + 2 * val (e10 : F)) := by
  have p := Geonum.sum_cartF_every_branch ha hb hma hmb hcb
  have q := Geonum.sum_cartF_every_branch hb ha hmb hma (by omega)
  rw [Nat.add_comm b.angle.blade, add_comm (val b.mag), add_comm (cartF b)] at q
  exact prod_norm_le.mp (le_trans (norm_sub_le_of_near p q) (two_mul _).ge)

/-- (B) **a zero-magnitude operand leaves the other's vector in place, in rounded arithmetic**, whatever its angle and whichever branch
    `+` takes: the components of `a + z` are those of `a` within the every-branch bound -/
theorem sum_zero_operand_float {a z : Geonum F} (ha : a.angle.Inv) (hz : z.angle.Inv) (hma : a.MagDom) (hmz : z.MagDom)
    (hz0 : val z.mag = 0) (hcb : a.angle.blade + z.angle.blade ≤ 2 ^ 39) :
    |val (a.add z).mag * Real.cos (Angle.Tpi (a.add z).angle) - val a.mag * Real.cos (Angle.Tpi a.angle)|
      ≤ val a.mag * (2 / 10 ^ 7 + 11 / 10 * (val (e10 : F)
          + (40 * ((a.angle.blade + z.angle.blade : ℕ) : ℝ) + 170) * (1 / 2 ^ 53))) + 1 / 10 ^ 28 + 2 * val (e10 : F) ∧
    |val (a.add z).mag * Real.sin (Angle.Tpi (a.add z).angle) - val a.mag * Real.sin (Angle.Tpi a.angle)|
      ≤ val a.mag * (2 / 10 ^ 7 + 11 / 10 * (val (e10 : F)
          + (40 * ((a.angle.blade + z.angle.blade : ℕ) : ℝ) + 170) * (1 / 2 ^ 53))) + 1 / 10 ^ 28 + 2 * val (e10 : F) := by
  obtain ⟨p1, p2⟩ := sum_cartesian_every_branch_float ha hz hma hmz hcb
  rw [hz0, zero_mul, add_zero, add_zero] at p1 p2
  exact ⟨p1, p2⟩

/-- (B) **subtraction is the Cartesian difference in rounded arithmetic, in EVERY branch** of `a + (−b)` -/
theorem diff_cartesian_every_branch_float {a b : Geonum F} (ha : a.angle.Inv) (hb : b.angle.Inv) (hma : a.MagDom) (hmb : b.MagDom)
    (hcb : a.angle.blade + b.angle.blade + 2 ≤ 2 ^ 39) :
    |val (a.sub b).mag * Real.cos (Angle.Tpi (a.sub b).angle) + val b.mag * Real.cos (Angle.Tpi b.angle) - val a.mag * Real.cos (Angle.Tpi a.angle)|
      ≤ (val a.mag + val b.mag) * (2 / 10 ^ 7 + 11 / 10 * (val (e10 : F)
          + (40 * ((a.angle.blade + b.angle.blade + 2 : ℕ) : ℝ) + 170) * (1 / 2 ^ 53))) + 1 / 10 ^ 28 + 2 * val (e10 : F) ∧
    |val (a.sub b).mag * Real.sin (Angle.Tpi (a.sub b).angle) + val b.mag * Real.sin (Angle.Tpi b.angle) - val a.mag * Real.sin (Angle.Tpi a.angle)|
      ≤ (val a.mag + val b.mag) * (2 / 10 ^ 7 + 11 / 10 * (val (e10 : F)
          + (40 * ((a.angle.blade + b.angle.blade + 2 : ℕ) : ℝ) + 170) * (1 / 2 ^ 53))) + 1 / 10 ^ 28 + 2 * val (e10 : F) :=
  prod_norm_le.mp (Geonum.sub_cartF_every_branch ha hb hma hmb hcb)

/-- the hypotheses of a running float sum: every operand canonical and in the magnitude domain, every partial sum in the magnitude
    domain, combined blade counts at most `2^39` ("for as long as they stay inside these bounds") -/
def RunOKF : Geonum F → List (Geonum F) → Prop
  | _, [] => True
  | acc, x :: xs => acc.MagDom ∧ x.angle.Inv ∧ x.MagDom ∧ acc.angle.blade + x.angle.blade ≤ 2 ^ 39 ∧ RunOKF (acc.add x) xs

/-- the every-branch bound of one addition -/
noncomputable def stepTolF (a b : Geonum F) : ℝ :=
  (val a.mag + val b.mag) * (2 / 10 ^ 7 + 11 / 10 * (val (e10 : F)
    + (40 * ((a.angle.blade + b.angle.blade : ℕ) : ℝ) + 170) * (1 / 2 ^ 53))) + 1 / 10 ^ 28 + 2 * val (e10 : F)

/-- the accumulated tolerance of a running float sum: one `stepTolF` per step, at the magnitudes and blade counts of that step -/
noncomputable def runTolF : Geonum F → List (Geonum F) → ℝ
  | _, [] => 0
  | acc, x :: xs => stepTolF acc x + runTolF (acc.add x) xs

/-- (B) the induction behind `running_sum_float`, on points of the plane: one `sum_cartF_every_branch` per step -/
theorem running_sum_cartF (l : List (Geonum F)) (acc : Geonum F) (hacc : acc.angle.Inv) (h : RunOKF acc l) :
    (l.foldl Geonum.add acc).angle.Inv ∧
    ‖cartF (l.foldl Geonum.add acc) - (cartF acc + (l.map cartF).sum)‖ ≤ runTolF acc l := by
  induction l generalizing acc with
  | nil => simp [runTolF, hacc]
  | cons x xs ih =>
    obtain ⟨hma, hx, hmx, hcb, hrest⟩ := h
    obtain ⟨i1, i2⟩ := ih (acc.add x) (Geonum.add_angle_inv hacc hx hma hmx hcb) hrest
    refine ⟨i1, ?_⟩
    simp only [List.foldl_cons, List.map_cons, List.sum_cons, runTolF]
    exact norm_sub_add_step i2 (Geonum.sum_cartF_every_branch hacc hx hma hmx hcb)

/-- (B) **running sums in rounded arithmetic**: folding `+` over any sequence, of any length, reproduces the component-wise sum of all the
    Cartesian components to within the accumulated per-step bounds — by induction over the sequence, every partial sum canonical on the way
    (whichever branch each step takes) -/
theorem running_sum_float (l : List (Geonum F)) (acc : Geonum F) (hacc : acc.angle.Inv) (h : RunOKF acc l) :
    (l.foldl Geonum.add acc).angle.Inv ∧
    |val (l.foldl Geonum.add acc).mag * Real.cos (Angle.Tpi (l.foldl Geonum.add acc).angle)
        - (val acc.mag * Real.cos (Angle.Tpi acc.angle) + (l.map (fun g => val g.mag * Real.cos (Angle.Tpi g.angle))).sum)|
      ≤ runTolF acc l ∧
    |val (l.foldl Geonum.add acc).mag * Real.sin (Angle.Tpi (l.foldl Geonum.add acc).angle)
        - (val acc.mag * Real.sin (Angle.Tpi acc.angle) + (l.map (fun g => val g.mag * Real.sin (Angle.Tpi g.angle))).sum)|
      ≤ runTolF acc l := by
  obtain ⟨hinv, key⟩ := running_sum_cartF l acc hacc h
  have hfst : ((l.map cartF).sum).1 = (l.map (fun g => val g.mag * Real.cos (Angle.Tpi g.angle))).sum := by
    rw [← AddMonoidHom.coe_fst, map_list_sum, List.map_map]; rfl
  have hsnd : ((l.map cartF).sum).2 = (l.map (fun g => val g.mag * Real.sin (Angle.Tpi g.angle))).sum := by
    rw [← AddMonoidHom.coe_snd, map_list_sum, List.map_map]; rfl
  obtain ⟨c1, c2⟩ := prod_norm_le.mp key
  simp only [Prod.fst_sub, Prod.snd_sub, Prod.fst_add, Prod.snd_add, hfst, hsnd] at c1 c2
  exact ⟨hinv, c1, c2⟩

/-- (B) **subtraction is the Cartesian difference in rounded arithmetic** (general branch of `a + (−b)`): the Cartesian components of
    `a − b` plus those of `b` are those of `a`, within the `sum_cartesian_float` bound at blade count `ba + bb + 2` (the half turn of
    `negate` is exact) -/
theorem diff_cartesian_float {a b : Geonum F} (ha : a.angle.Inv) (hb : b.angle.Inv) (hma : a.MagDom) (hmb : b.MagDom)
    (hcb : a.angle.blade + b.angle.blade + 2 ≤ 2 ^ 39)
    (h1 : sameAngle a b.negate = false) (h2 : oppositeAngle a b.negate = false) :
    |val (a.sub b).mag * Real.cos (Angle.Tpi (a.sub b).angle) + val b.mag * Real.cos (Angle.Tpi b.angle) - val a.mag * Real.cos (Angle.Tpi a.angle)|
      ≤ (val a.mag + val b.mag) * (2 / 10 ^ 7 + 11 / 10 * (val (e10 : F)
          + (40 * ((a.angle.blade + b.angle.blade + 2 : ℕ) : ℝ) + 170) * (1 / 2 ^ 53))) + 1 / 10 ^ 28 ∧
    |val (a.sub b).mag * Real.sin (Angle.Tpi (a.sub b).angle) + val b.mag * Real.sin (Angle.Tpi b.angle) - val a.mag * Real.sin (Angle.Tpi a.angle)|
      ≤ (val a.mag + val b.mag) * (2 / 10 ^ 7 + 11 / 10 * (val (e10 : F)
          + (40 * ((a.angle.blade + b.angle.blade + 2 : ℕ) : ℝ) + 170) * (1 / 2 ^ 53))) + 1 / 10 ^ 28 :=
  prod_norm_le.mp (Geonum.sub_cartF_float ha hb hma hmb hcb h1 h2)

end B

/-! B-tier coverage: the Cartesian-sum clause is proved in rounded arithmetic for every branch (`sum_cartesian_every_branch_float`),
    for running sums (`running_sum_float`) and for subtraction (`diff_cartesian_every_branch_float`), on the domain of magnitudes up to
    `1e100` and combined blade counts up to `2^39`.  The accuracy is the `√ε`-of-scale bound of `sum_mag_float`, not the `1e-10` of the
    E-tier; `oracle.C06.sum` / `oracle.C06.running` explore the machine against a Cartesian reference. -/

example {F : Type} [FloatSpec F] : (⟨one, ⟨zero, 3⟩⟩ : Geonum F).MagDom :=
  ⟨fin_one, by rw [val_one]; norm_num, by rw [val_one]; exact one_le_pow₀ (by norm_num)⟩

/-- non-vacuity of `sum_mag_float`: two unit numbers a quarter turn apart take the general branch -/
example {F : Type} [FloatSpec F] : sameAngle (⟨one, ⟨zero, 0⟩⟩ : Geonum F) ⟨one, ⟨zero, 1⟩⟩ = false ∧
    oppositeAngle (⟨one, ⟨zero, 0⟩⟩ : Geonum F) ⟨one, ⟨zero, 1⟩⟩ = false := by
  have h1 := (add_whole (a := (⟨zero, 0⟩ : Angle F)) (inv_zero 0) (new_one_one (F := F)).2.1
    (by rw [(new_one_one (F := F)).2.2.2, val_zero])).1
  have h2 := (add_whole (a := (⟨zero, 1⟩ : Angle F)) (inv_zero 1) (new_one_one (F := F)).2.1
    (by rw [(new_one_one (F := F)).2.2.2, val_zero])).1
  rw [(new_one_one (F := F)).1] at h1 h2
  exact ⟨beq_of_blade_ne (by simp), Bool.or_eq_false_iff.mpr
    ⟨beq_of_blade_ne (h1.trans_ne (by simp)), beq_of_blade_ne (h2.trans_ne (by simp))⟩⟩


/-! ### R — on the arithmetic that really rounds (`R64`) -/
section R

/-- (R) addition is the Cartesian sum (general branch) for all pairs of binary64 numbers in the domain -/
theorem sum_cartesian_rounded {a b : Geonum R64} (ha : a.angle.Inv) (hb : b.angle.Inv) (hma : a.MagDom) (hmb : b.MagDom)
    (hcb : a.angle.blade + b.angle.blade ≤ 2 ^ 39) (h1 : sameAngle a b = false) (h2 : oppositeAngle a b = false) :
    |(a.add b).mag.v * Real.cos (Angle.Tpi (a.add b).angle)
        - (a.mag.v * Real.cos (Angle.Tpi a.angle) + b.mag.v * Real.cos (Angle.Tpi b.angle))|
      ≤ (a.mag.v + b.mag.v) * (2 / 10 ^ 7 + 11 / 10 * ((e10 : R64).v
          + (40 * ((a.angle.blade + b.angle.blade : ℕ) : ℝ) + 170) * (1 / 2 ^ 53))) + 1 / 10 ^ 28 ∧
    |(a.add b).mag.v * Real.sin (Angle.Tpi (a.add b).angle)
        - (a.mag.v * Real.sin (Angle.Tpi a.angle) + b.mag.v * Real.sin (Angle.Tpi b.angle))|
      ≤ (a.mag.v + b.mag.v) * (2 / 10 ^ 7 + 11 / 10 * ((e10 : R64).v
          + (40 * ((a.angle.blade + b.angle.blade : ℕ) : ℝ) + 170) * (1 / 2 ^ 53))) + 1 / 10 ^ 28 :=
  sum_cartesian_float (F := R64) ha hb hma hmb hcb h1 h2

/-- (R) addition is the Cartesian sum in EVERY branch, for all pairs of binary64 numbers in the domain -/
theorem sum_cartesian_every_branch_rounded {a b : Geonum R64} (ha : a.angle.Inv) (hb : b.angle.Inv) (hma : a.MagDom) (hmb : b.MagDom)
    (hcb : a.angle.blade + b.angle.blade ≤ 2 ^ 39) :
    |(a.add b).mag.v * Real.cos (Angle.Tpi (a.add b).angle)
        - (a.mag.v * Real.cos (Angle.Tpi a.angle) + b.mag.v * Real.cos (Angle.Tpi b.angle))|
      ≤ (a.mag.v + b.mag.v) * (2 / 10 ^ 7 + 11 / 10 * ((e10 : R64).v
          + (40 * ((a.angle.blade + b.angle.blade : ℕ) : ℝ) + 170) * (1 / 2 ^ 53))) + 1 / 10 ^ 28 + 2 * (e10 : R64).v ∧
    |(a.add b).mag.v * Real.sin (Angle.Tpi (a.add b).angle)
        - (a.mag.v * Real.sin (Angle.Tpi a.angle) + b.mag.v * Real.sin (Angle.Tpi b.angle))|
      ≤ (a.mag.v + b.mag.v) * (2 / 10 ^ 7 + 11 / 10 * ((e10 : R64).v
          + (40 * ((a.angle.blade + b.angle.blade : ℕ) : ℝ) + 170) * (1 / 2 ^ 53))) + 1 / 10 ^ 28 + 2 * (e10 : R64).v :=
  sum_cartesian_every_branch_float (F := R64) ha hb hma hmb hcb

end R

end GeonumModel.C06
