/-
  C01 — Angles stay canonical and core operations stay total.

  The reachable-state invariant `Angle.Inv` (finite remainder in `[0, π/2 − 1e-10]`, hence in the documented `[0, π/2)`)
  is established by every constructor and preserved by every operation, for rounded arithmetic (S-tier); so it holds for
  every intermediate value of every operation sequence, of any length.  Magnitudes stay finite and non-negative.
  Panics are characterised exactly (G-tier).
-/
import GeonumModel.Spec.RoundWitness
import GeonumModel.Lemmas.FloatReflect
import GeonumModel.Lemmas.FloatSumDir
import GeonumModel.Props.C09
import GeonumModel.Props.C10
import GeonumModel.Props.C11

namespace GeonumModel.C01
open GeonumModel FloatLike FloatSpec Angle Geonum

section G
variable {F : Type} [FloatLike F]

/-- (G) the three documented panics, and only under the documented condition: inverse / division, normalisation, circle
    inversion are `none` exactly when the tested magnitude compares equal to zero -/
theorem panics_exactly (g o : Geonum F) (r : F) :
    (g.inv = none ↔ feq g.mag zero = true) ∧ (o.div g = none ↔ feq g.mag zero = true) ∧
    (o.divVV g = none ↔ feq g.mag zero = true) ∧ (g.normalize = none ↔ feq g.mag zero = true) ∧
    (g.invertCircle o r = none ↔ feq (g.sub o).mag zero = true) := by
  refine ⟨?_, ?_, ?_, ?_, ?_⟩
  · unfold Geonum.inv; by_cases h : feq g.mag zero = true <;> simp [h]
  · unfold Geonum.div Geonum.inv; by_cases h : feq g.mag zero = true <;> simp [h]
  · unfold Geonum.divVV Geonum.inv; by_cases h : feq g.mag zero = true <;> simp [h]
  · unfold Geonum.normalize; by_cases h : feq g.mag zero = true <;> simp [h]
  · unfold Geonum.invertCircle; by_cases h : feq (g.sub o).mag zero = true <;> simp [h]
end G

section S
variable {F : Type} [FloatSpec F]

/-- (S) the invariant implies the documented range: finite remainder in `[0, π/2)` -/
theorem inv_canonical {a : Angle F} (h : a.Inv) : Fin a.rem ∧ 0 ≤ val a.rem ∧ val a.rem < val (qp : F) := h.canon

/-- (S) **constructors establish the invariant.**  `Angle::new` for every finite `p`, `d` with `|p| ≤ 1e200`, `|d| ≥ 1e-200`
    and `|p·π/d| ≤ 2^42` (the property's `|2p/d| ≤ 2^40` implies `|p·π/d| < 2^41`); relies on fix f40c5b0 (clamp of the
    negative path).  PARTIAL w.r.t. the property's "all finite p, d": the contract asserts `InRange` only up to `1e250`,
    hence the bounds `1e200` / `1e-200` that keep the intermediate values inside it; beyond them the bit-exact tie is the
    evidence. -/
theorem new_inv_partial {p d : F} (hp : Fin p) (hd : Fin d) (hpb : |val p| ≤ 10 ^ 200)
    (hdl : 1 / 10 ^ 200 ≤ |val d|) (hq : |val p * piV F / val d| ≤ 2 ^ 42) : (Angle.new p d).Inv :=
  Angle.new_inv hp hd hpb hdl hq

/-- (S) `new_with_blade` on top of it -/
theorem newWithBlade_inv_partial {p d : F} (k : ℕ) (hk : k < 2 ^ 53) (hp : Fin p) (hd : Fin d) (hpb : |val p| ≤ 10 ^ 200)
    (hdl : 1 / 10 ^ 200 ≤ |val d|) (hq : |val p * piV F / val d| ≤ 2 ^ 42) : (Angle.newWithBlade k p d).Inv := by
  unfold Angle.newWithBlade
  simp only [Angle.add, addVV]
  rw [new_nat k hk]
  exact geometricAdd_inv (Angle.new_inv hp hd hpb hdl hq) (inv_zero k)

/-- (S) `Angle::new(n, 1.0)` — "π-radians in" — is canonical for every finite `|n| ≤ 2^39` -/
theorem new_one_inv {n : F} (hn : Fin n) (hnb : |val n| ≤ 2 ^ 39) : (Angle.new n (one : F)).Inv := by
  have hp0 := piV_pos (F := F)
  apply Angle.new_inv hn fin_one
  · exact hnb.trans (by norm_num)
  · rw [val_one, abs_one]; norm_num
  · rw [val_one, div_one, abs_mul, abs_of_pos hp0]
    exact (mul_le_mul hnb (piV_lt4 (F := F)).le hp0.le (by positivity)).trans (by norm_num)

/-- (S) Cartesian constructor: `atan2` returns a value in `[−π_f, π_f]`, divided by `π_f` it is in `[−1, 1]` (rounding does not
    cross `±1`), so the general path applies -/
theorem newFromCartesian_inv {x y : F} (hx : Fin x) (hy : Fin y) : (Angle.newFromCartesian x y).Inv := by
  obtain ⟨hfa, hab, _⟩ := atan2_spec hy hx
  have hp0 := piV_pos (F := F)
  have hquot : |val (FloatLike.atan2 y x) / piV F| ≤ 1 := by rw [abs_div, abs_of_pos hp0, div_le_one hp0]; exact hab
  obtain ⟨hfd, hvd⟩ := fdiv_spec hfa (fin_pi (F := F)) (by rw [val_pi]; exact hp0.ne')
    (by rw [val_pi]; exact inRange_of_abs_le_1000 (hquot.trans (by norm_num)))
  rw [val_pi] at hvd
  exact new_one_inv hfd (hvd ▸ (abs_rnd_le rep_one hquot).trans (one_le_pow₀ one_le_two))

/-- (S) **angle operations preserve the invariant**: `+ * rotate`, `- /`, `dual undual negate conjugate base_angle` -/
theorem angle_ops_inv {a b : Angle F} (ha : a.Inv) (hb : b.Inv) :
    (a.geometricAdd b).Inv ∧ (a.geometricSub b).Inv ∧ a.dual.Inv ∧ a.undual.Inv ∧ a.negate.Inv ∧ a.conjugate.Inv ∧
    a.baseAngle.Inv ∧ (a.rotate b).Inv :=
  ⟨geometricAdd_inv ha hb, geometricSub_inv ha hb, dual_inv ha, dual_inv ha,
   negate_inv ha, negate_inv ha, ha, geometricAdd_inv ha hb⟩

/-- the angle-level operation alphabet for histories -/
inductive Op (F : Type) | add (x : Angle F) | sub (x : Angle F) | rsub (x : Angle F) | dual | negate | conjugate | base

def step : Angle F → Op F → Angle F
  | a, .add x => a.geometricAdd x | a, .sub x => a.geometricSub x | a, .rsub x => x.geometricSub a
  | a, .dual => a.dual | a, .negate => a.negate | a, .conjugate => a.conjugate | a, .base => a.baseAngle

def Op.ArgInv : Op F → Prop | .add x => x.Inv | .sub x => x.Inv | .rsub x => x.Inv | _ => True

theorem step_inv {a : Angle F} (ha : a.Inv) (o : Op F) (ho : o.ArgInv) : (step a o).Inv := by
  cases o with
  | add x => exact geometricAdd_inv ha ho
  | sub x => exact geometricSub_inv ha ho
  | rsub x => exact geometricSub_inv ho ha
  | dual => exact dual_inv ha
  | negate => exact negate_inv ha
  | conjugate => exact negate_inv ha
  | base => exact ha

/-- (S) **history form**: every value of every operation sequence of any length, started from a canonical angle with
    canonical operands, is canonical -/
theorem run_inv (ops : List (Op F)) (a : Angle F) (ha : a.Inv) (hw : ∀ o ∈ ops, o.ArgInv) :
    (ops.foldl step a).Inv := by
  induction ops generalizing a with
  | nil => exact ha
  | cons o os ih =>
    exact ih (step a o) (step_inv ha o (hw o List.mem_cons_self)) (fun o' ho' => hw o' (List.mem_cons_of_mem _ ho'))

/-! `usize` / `i64` headroom.  The model counts blades in `Nat`, the code in `usize` (overflow panics in the dev
    profile) and casts to `i64` in `geometric_sub`.  These bounds show the difference cannot matter on the property's domain:
    one operation raises the blade count by at most the operand's count plus four, so histories of any practical length
    starting inside `2^40` stay far below `2^63`. -/

/-- (S) growth of the blade count in one angle operation -/
theorem blade_growth {a b : Angle F} (ha : a.Inv) (hb : b.Inv) :
    (a.geometricAdd b).blade ≤ a.blade + b.blade + 1 ∧ (a.geometricSub b).blade ≤ max a.blade 3 + 1 ∧
    a.dual.blade = a.blade + 2 ∧ a.negate.blade = a.blade + 2 ∧ a.conjugate.blade = a.blade + 2 ∧
    a.baseAngle.blade ≤ a.blade := by
  refine ⟨?_, ?_, (dual_spec ha).1, (negate_spec ha).1, (conjugate_spec ha).1, ?_⟩
  · rcases geometricAdd_blade ha hb with h | h <;> omega
  · obtain ⟨_, s, c, hs, hc, hbl, _⟩ := geometricSub_spec ha hb
    rw [hbl]
    exact add_le_add (wrap4_le (by omega)) (by omega)
  · show a.blade % 4 ≤ a.blade; exact Nat.mod_le _ _

/-- the blade count an operation's operand brings in -/
def Op.argBlade : Op F → Nat | .add x => x.blade | .sub x => x.blade | .rsub x => x.blade | _ => 0

theorem step_blade_le {a : Angle F} (ha : a.Inv) (o : Op F) (ho : o.ArgInv) :
    (step a o).blade ≤ a.blade + o.argBlade + 4 := by
  have hu := (blade_growth ha ha).2.2
  cases o with
  | add x => have := (blade_growth ha ho).1; simp only [step, Op.argBlade]; omega
  | sub x => have := (blade_growth ha ho).2.1; simp only [step, Op.argBlade]; omega
  | rsub x => have := (blade_growth ho ha).2.1; simp only [step, Op.argBlade]; omega
  | _ => simp only [step, Op.argBlade]; omega

/-- (S) **no `usize` overflow along any history**: after any operation sequence the blade count is at most the start
    count plus, per operation, the operand's count plus four -/
theorem run_blade_le (ops : List (Op F)) (a : Angle F) (ha : a.Inv) (hw : ∀ o ∈ ops, o.ArgInv) :
    (ops.foldl step a).blade ≤ a.blade + (ops.map (fun o => o.argBlade + 4)).sum := by
  induction ops generalizing a with
  | nil => simp
  | cons o os ih =>
    have h1 := step_blade_le ha o (hw o List.mem_cons_self)
    have h2 := ih (step a o) (step_inv ha o (hw o List.mem_cons_self)) (fun o' ho' => hw o' (List.mem_cons_of_mem _ ho'))
    simp only [List.foldl_cons, List.map_cons, List.sum_cons]
    omega

/-- (S) in numbers: a history of up to `2^20` operations whose start and operands have at most `2^40` blades ends below
    `2^62`, so neither the `usize` additions nor the `as i64` casts of the code can overflow or wrap anywhere along it -/
theorem run_no_overflow (ops : List (Op F)) (a : Angle F) (ha : a.Inv) (hw : ∀ o ∈ ops, o.ArgInv)
    (hlen : ops.length ≤ 2 ^ 20) (ha40 : a.blade ≤ 2 ^ 40) (hops : ∀ o ∈ ops, o.argBlade ≤ 2 ^ 40) :
    (ops.foldl step a).blade < 2 ^ 62 := by
  have h := run_blade_le ops a ha hw
  have hsum : (ops.map (fun o => o.argBlade + 4)).sum ≤ ops.length * (2 ^ 40 + 4) := by
    have : ∀ x ∈ ops.map (fun o => o.argBlade + 4), x ≤ 2 ^ 40 + 4 := by
      intro x hx
      obtain ⟨o, ho, rfl⟩ := List.mem_map.mp hx
      have := hops o ho; omega
    have := List.sum_le_card_nsmul _ _ this
    simpa using this
  have : ops.length * (2 ^ 40 + 4) ≤ 2 ^ 20 * (2 ^ 40 + 4) := Nat.mul_le_mul_right _ hlen
  omega

/-- (S) Geonum operations return canonical angles: product, rotation, negation, duals, blade steps, wedge-style sums -/
theorem geonum_angle_ops_inv {a b : Geonum F} (ha : a.angle.Inv) (hb : b.angle.Inv) :
    (a.mul b).angle.Inv ∧ (a.rotate b.angle).angle.Inv ∧ a.negate.angle.Inv ∧ a.dual.angle.Inv ∧ a.undual.angle.Inv ∧
    a.baseAngle.angle.Inv ∧ (Geonum.angleMul a.angle b).angle.Inv := by
  exact ⟨geometricAdd_inv ha hb, geometricAdd_inv ha hb, negate_inv ha,
    dual_inv ha, dual_inv ha, ha, geometricAdd_inv ha hb⟩

/-- (S) product magnitudes: finite and non-negative for in-domain operands -/
theorem mul_mag_ok {a b : Geonum F} (ha : a.MagDom) (hb : b.MagDom) :
    Fin (a.mul b).mag ∧ 0 ≤ val (a.mul b).mag := by
  have := mul_dom ha.1 hb.1 ha.2.1 hb.2.1 ha.2.2 hb.2.2
  exact ⟨this.1, this.2.1⟩

/-- (S) sum magnitudes: finite and non-negative (never NaN) in every branch; relies on fix 05011a7 -/
theorem add_mag_ok' {a b : Geonum F} (ha : a.MagDom) (hb : b.MagDom) (hai : a.angle.Inv) (hbi : b.angle.Inv) :
    Fin (a.add b).mag ∧ 0 ≤ val (a.add b).mag :=
  Geonum.add_mag_ok' ha hb hai hbi

/-- (S) `Angle::new(x, PI)` — "radians in, angle out" — is canonical for every finite `|x| ≤ 2^41`: used by the general branch of
    `+`, by `Angle / f64`, by `pow`, and by the optics / machine-learning helpers -/
theorem new_radians_inv {x : F} (hx : Fin x) (hb : |val x| ≤ 2 ^ 41) : (Angle.new x (FloatLike.pi : F)).Inv :=
  Angle.new_radians_inv hx hb

/-- (S) **the sum of two geometric numbers has a canonical angle in every branch** (blade sums up to `2^39`): same-angle and
    opposite branches return an operand's angle or `new_with_blade(ba+bb, 0, 1)`; the general branch re-encodes
    `atan2(…) − (ba+bb)·π/2` through `Angle::new(·, PI)` and adds the blade sum -/
theorem add_angle_inv {a b : Geonum F} (ha : a.angle.Inv) (hb : b.angle.Inv) (hma : a.MagDom) (hmb : b.MagDom)
    (hcb : a.angle.blade + b.angle.blade ≤ 2 ^ 39) : (a.add b).angle.Inv :=
  Geonum.add_angle_inv ha hb hma hmb hcb

/-- (S) the operations derived from `+`: difference, geometric product, rejection — canonical angles, as long as the intermediate
    magnitudes stay inside the domain (the property quantifies "for as long as they stay inside these bounds") -/
theorem derived_sums_canonical {a b : Geonum F} (ha : a.angle.Inv) (hb : b.angle.Inv) (hma : a.MagDom) (hmb : b.MagDom)
    (hbm : flt (fabs b.mag) e10 = false) (hcb : a.angle.blade + b.angle.blade + 6 ≤ 2 ^ 38)
    (hdm : (a.dot b).MagDom) (hwm : (a.wedge b).MagDom) (hpm : (a.project b).MagDom) :
    (a.sub b).angle.Inv ∧ (a.geo b).angle.Inv ∧ (a.reject b).angle.Inv := by
  have hsub : (a.sub b).angle.Inv := sub_angle_inv ha hb hma hmb (by omega)
  -- geo = dot + wedge
  obtain ⟨hdl, _, hdinv⟩ := C09.dot_lattice a b
  obtain ⟨hwinv, _, hwb⟩ := C10.wedge_angle ha hb
  have hgeo : (a.geo b).angle.Inv :=
    add_angle_inv hdinv hwinv hdm hwm (by rcases hdl with h | h <;> rw [h] <;> omega)
  -- reject = a − project
  obtain ⟨hpinv, hpbl, _⟩ := C11.project_angle (a := a) hbm hb
  have hrej : (a.reject b).angle.Inv :=
    sub_angle_inv ha hpinv hma hpm (by rcases hpbl with h | h <;> rw [h] <;> omega)
  exact ⟨hsub, hgeo, hrej⟩

/-- (S) the scalar constructor's angle is canonical, whatever the bits of its argument (NaN included: the test just fails) -/
theorem scalar_angle_inv (f : F) : (Geonum.scalar f).angle.Inv := by
  unfold Geonum.scalar
  simp only
  split
  · exact new_zero_one.whole_inv
  · exact new_one_one.whole_inv

/-- (S) the remaining Geonum operations return canonical angles whenever they return: inverse, `normalize`, quotient (all four
    spellings are this function), `scale`, reflection, `meet`, blade steps — for every magnitude, finite or not -/
theorem more_ops_canonical {a b : Geonum F} (f : F) (ha : a.angle.Inv) (hb : b.angle.Inv) :
    (∀ r, a.inv = some r → r.angle.Inv) ∧ (∀ r, a.normalize = some r → r.angle.Inv) ∧
    (∀ r, a.div b = some r → r.angle.Inv) ∧ (∀ r, a.divVV b = some r → r.angle.Inv) ∧
    (a.scale f).angle.Inv ∧ (a.reflect b).angle.Inv ∧ (a.meet b).angle.Inv := by
  have hinv : ∀ {g : Geonum F}, g.angle.Inv → ∀ r, g.inv = some r → r.angle.Inv := by
    intro g hg r hr
    unfold Geonum.inv at hr
    split at hr
    · cases hr
    · cases hr; exact negate_inv hg
  have hdiv : ∀ r, a.divVV b = some r → r.angle.Inv := by
    intro r hr
    obtain ⟨i, hi, rfl⟩ := Option.map_eq_some_iff.mp hr
    exact geometricAdd_inv ha (hinv hb i hi)
  refine ⟨hinv ha, ?_, hdiv, hdiv, geometricAdd_inv ha (scalar_angle_inv f), reflect_inv ha hb, ?_⟩
  · intro r hr
    unfold Geonum.normalize at hr
    split at hr
    · cases hr
    · cases hr; exact ha
  · exact dual_inv (C10.wedge_angle (a := a.dual) (b := b.dual) (dual_inv ha) (dual_inv hb)).1

/-- (S) `Angle / f64`, `pow` and `scale_rotate` return canonical angles -/
theorem divF_pow_canonical {g : Geonum F} {k n f : F} {r : Angle F} (hg : g.angle.Inv) (hr : r.Inv)
    (hq : Fin (fdiv (fadd (fmul (FloatLike.ofNat g.angle.blade) (fdiv pi two)) g.angle.rem) k))
    (hqb : |val (fdiv (fadd (fmul (FloatLike.ofNat g.angle.blade) (fdiv pi two)) g.angle.rem) k)| ≤ 2 ^ 41)
    (hn : Fin n) (hnb : |val n| ≤ 2 ^ 39) :
    (g.angle.divF k).Inv ∧ (g.angle.divFR k).Inv ∧ (g.pow n).angle.Inv ∧ (g.scaleRotate f r).angle.Inv := by
  have hdiv : (g.angle.divF k).Inv := new_radians_inv hq hqb
  refine ⟨hdiv, hdiv, geometricAdd_inv hg (new_one_inv hn hnb), ?_⟩
  unfold Geonum.scaleRotate Geonum.newWithAngle
  split
  · exact geometricAdd_inv (negate_inv hg) hr
  · exact geometricAdd_inv hg hr

/-- (S) **every binary / unary core measurement returns a canonical angle**: dot, wedge, projection (target not tiny), reflection,
    cosine and sine gateways — collected from the per-property theorems (C09–C15) -/
theorem measurements_canonical {a b : Geonum F} (ha : a.angle.Inv) (hb : b.angle.Inv)
    (hbm : flt (fabs b.mag) e10 = false) :
    (a.dot b).angle.Inv ∧ (a.wedge b).angle.Inv ∧ (a.project b).angle.Inv ∧ (a.reflect b).angle.Inv ∧
    (Geonum.cos a.angle).angle.Inv ∧ (Geonum.sin a.angle).angle.Inv := by
  obtain ⟨hinv0, hv0, _⟩ := Geonum.base_zero_one (F := F)
  obtain ⟨hinv1, hv1, _⟩ := Geonum.base_one_two (F := F)
  exact ⟨(C09.dot_lattice a b).2.2, (C10.wedge_angle ha hb).1, (C11.project_angle hbm hb).1, reflect_inv ha hb,
    (Geonum.signedAt_lattice _ hinv0 hv0).1, (Geonum.signedAt_lattice _ hinv1 hv1).1⟩

/-- (S) **measurement magnitudes are non-negative**: dot, wedge, projection (in-domain operands) -/
theorem measurement_mags_ok {a b : Geonum F} (ha : a.angle.Inv) (hb : b.angle.Inv) (hma : a.MagDom) (hmb : b.MagDom)
    (hbm : flt (fabs b.mag) e10 = false) :
    0 ≤ val (a.dot b).mag ∧ 0 ≤ val (a.wedge b).mag ∧ 0 ≤ val (a.project b).mag := by
  have hg := gradeAngle_fin (geometricSub_inv hb ha)
  have hr : InRange (F := F) (val a.mag * val b.mag) := inRange_of_le (by
    rw [abs_of_nonneg (mul_nonneg hma.2.1 hmb.2.1)]
    exact (mul_le_mul hma.2.2 hmb.2.2 hmb.2.1 (by positivity)).trans (by norm_num))
  exact ⟨(C09.dot_bounds hma.1 hmb.1 hma.2.1 hmb.2.1 hg hr).1, (C10.wedge_mag_bounds hma.1 hmb.1 hma.2.1 hmb.2.1 hg hr).1,
    (C11.project_mag_bounds hma.1 hma.2.1 hbm hg).1⟩

end S

/-! non-vacuity: concrete arguments meeting the constructor hypotheses (exact arithmetic) -/
example : (Angle.new (3 : ℝ) (4 : ℝ)).Inv := by
  apply Angle.new_inv (F := ℝ) trivial trivial
  · show |(3:ℝ)| ≤ 10 ^ 200
    rw [abs_of_pos (by norm_num)]; norm_num
  · show (1:ℝ) / 10 ^ 200 ≤ |(4:ℝ)|
    rw [abs_of_pos (by norm_num)]; norm_num
  · show |(3:ℝ) * Real.pi / 4| ≤ 2 ^ 42
    have := Real.pi_gt_three; have := Real.pi_lt_four
    rw [abs_of_pos (by positivity)]
    linarith

/-! ### R — on the arithmetic that really rounds (`R64`): `Fin` / `InRange` premises are discharged outright, no hypothesis
    about the arithmetic is left -/
section R

/-- (R) every `Angle::new` result is canonical in round-to-nearest binary64 arithmetic -/
theorem new_inv_rounded (p d : R64) (hpb : |p.v| ≤ 10 ^ 200) (hdl : 1 / 10 ^ 200 ≤ |d.v|)
    (hq : |p.v * R64.piR / d.v| ≤ 2 ^ 42) : (Angle.new p d).Inv :=
  new_inv_partial (F := R64) trivial trivial hpb hdl hq

/-- (R) every value of every history of angle operations is canonical, and its blade count stays below `2^62` -/
theorem run_rounded (ops : List (Op R64)) (a : Angle R64) (ha : a.Inv) (hw : ∀ o ∈ ops, o.ArgInv)
    (hlen : ops.length ≤ 2 ^ 20) (ha40 : a.blade ≤ 2 ^ 40) (hops : ∀ o ∈ ops, o.argBlade ≤ 2 ^ 40) :
    (ops.foldl step a).Inv ∧ (ops.foldl step a).blade < 2 ^ 62 :=
  ⟨run_inv ops a ha hw, run_no_overflow ops a ha hw hlen ha40 hops⟩

/-- (R) sums never have a NaN / negative magnitude: in `R64` the magnitude of `a + b` is a non-negative number for all
    in-domain operands with canonical angles -/
theorem add_mag_rounded {a b : Geonum R64} (ha : a.MagDom) (hb : b.MagDom) (hai : a.angle.Inv) (hbi : b.angle.Inv) :
    0 ≤ (a.add b).mag.v := (add_mag_ok' ha hb hai hbi).2

/-- non-vacuity in rounded arithmetic: `Angle::new(1.0, 3.0)` -/
example : (Angle.new (R64.ofReal 1) (R64.ofReal 3) : Angle R64).Inv := by
  have r1 : (R64.ofReal 1).v = 1 := R53.rnd_rep R64.rep_one
  have r3 : (R64.ofReal 3).v = 3 := R53.rnd_rep (by simpa using R53.rep_nat (n := 3) (by norm_num))
  apply new_inv_rounded
  · rw [r1, abs_one]; norm_num
  · rw [r3, abs_of_pos (by norm_num)]; norm_num
  · rw [r1, r3]
    have := R64.piR_le; have := Real.pi_lt_four; have := R64.piR_pos
    rw [abs_of_pos (by positivity)]
    have : (1:ℝ) * R64.piR / 3 ≤ 2 := by linarith
    have : (2:ℝ) ≤ 2 ^ 42 := by norm_num
    linarith

end R

end GeonumModel.C01
