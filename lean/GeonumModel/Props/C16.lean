/-
  C16 — Equality is blade-exact and ordering is a lawful total order.

  On finite fields `Angle.cmp` / `Geonum.cmp` are `compare` on the keys `(blade, val rem)` / `(blade, val rem, val mag)` in the
  lexicographic order (`cmp_eq_compare`, `geonum_cmp_eq_compare`); every order law below is the corresponding law of `ℕ ×ₗ ℝ ×ₗ ℝ`.
-/
import GeonumModel.Spec.RealWitness
import GeonumModel.Spec.RoundWitness
import GeonumModel.Lemmas.AngleInv

namespace GeonumModel.C16
open GeonumModel FloatLike FloatSpec Angle

section G
variable {F : Type} [FloatLike F]

/-- (G) angles compare equal only if their blade counts are identical — a full turn apart is a different value -/
theorem beq_blade (a b : Angle F) (h : a.beq b = true) : a.blade = b.blade := Angle.beq_blade h

/-- (G) geometric numbers additionally need magnitudes that compare equal -/
theorem geonum_beq (a b : Geonum F) : a.beq b = (feq a.mag b.mag && a.angle.beq b.angle) := rfl

/-- (G) partial comparison always agrees with comparison -/
theorem partialCmp_eq (a b : Angle F) (x y : Geonum F) :
    a.partialCmp b = (a.cmp b).map some ∧ x.partialCmp y = (x.cmp y).map some := ⟨rfl, rfl⟩
end G

section S
variable {F : Type} [FloatSpec F]

/-- sort key of an angle -/
noncomputable def akey (a : Angle F) : ℕ ×ₗ ℝ := toLex (a.blade, val a.rem)

/-- sort key of a geometric number -/
noncomputable def gkey (g : Geonum F) : ℕ ×ₗ ℝ ×ₗ ℝ := toLex (g.angle.blade, toLex (val g.angle.rem, val g.mag))

theorem compare_akey (a b : Angle F) :
    compare (akey a) (akey b) = (compare a.blade b.blade).then (compare (val a.rem) (val b.rem)) := rfl

theorem cmp_eq_compare {a b : Angle F} (ha : Fin a.rem) (hb : Fin b.rem) :
    a.cmp b = some (compare (akey a) (akey b)) := by
  unfold Angle.cmp
  rw [fcmp_eq_compare ha hb, compare_akey]
  cases compare a.blade b.blade <;> rfl

theorem cmp_eq_iff {a b : Angle F} (ha : Fin a.rem) (hb : Fin b.rem) :
    a.cmp b = some .eq ↔ a.blade = b.blade ∧ val a.rem = val b.rem := by
  rw [cmp_eq_compare ha hb, Option.some.injEq, compare_eq_iff_eq]
  exact Prod.ext_iff

theorem cmp_refl {a : Angle F} (ha : Fin a.rem) : a.cmp a = some .eq := (cmp_eq_iff ha ha).mpr ⟨rfl, rfl⟩

/-- (S) comparison never panics on finite remainders and is antisymmetric and transitive -/
theorem cmp_antisymm {a b : Angle F} (ha : Fin a.rem) (hb : Fin b.rem) :
    (a.cmp b = some .lt ↔ b.cmp a = some .gt) ∧ (a.cmp b = some .eq ↔ b.cmp a = some .eq) := by
  simp only [cmp_eq_compare ha hb, cmp_eq_compare hb ha, Option.some.injEq, compare_lt_iff_lt, compare_gt_iff_gt,
    compare_eq_iff_eq]
  exact ⟨trivial, eq_comm⟩

theorem cmp_trans {a b c : Angle F} (ha : Fin a.rem) (hb : Fin b.rem) (hc : Fin c.rem)
    (hab : a.cmp b = some .lt) (hbc : b.cmp c = some .lt) : a.cmp c = some .lt := by
  simp only [cmp_eq_compare, ha, hb, hc, Option.some.injEq, compare_lt_iff_lt] at hab hbc ⊢
  exact lt_trans hab hbc

/-- (S) comparison agrees with equality in one direction unconditionally: `cmp = Equal` implies `==` -/
theorem beq_of_cmp_eq {a b : Angle F} (ha : Fin a.rem) (hb : Fin b.rem) (h : a.cmp b = some .eq) : a.beq b = true := by
  obtain ⟨hbl, hr⟩ := (cmp_eq_iff ha hb).mp h
  exact beq_of_val_eq ha hb hbl hr

/-- (S) `==` needs identical blades and remainders that agree within `1e-15` (or are the same value) -/
theorem beq_rems {a b : Angle F} (ha : a.Inv) (hb : b.Inv) (h : a.beq b = true) :
    a.blade = b.blade ∧ |val a.rem - val b.rem| < val (e15 : F) := Angle.beq_rems ha hb h

/-- (S) PARTIAL: `== → cmp = Equal` holds when the remainders have the same value.  The full statement (for every pair that
    compares `==`) is FALSE of the code: remainders less than 1e-15 apart but distinct are `==` yet `cmp` orders them
    (known finding C16-eq-vs-cmp; witness replayed on every run). -/
theorem cmp_eq_of_beq_partial {a b : Angle F} (ha : Fin a.rem) (hb : Fin b.rem)
    (h : a.beq b = true) (hsame : val a.rem = val b.rem) : a.cmp b = some .eq :=
  (cmp_eq_iff ha hb).mpr ⟨beq_blade a b h, hsame⟩

/-- all three float fields finite (every value the library produces inside the C01 domain) -/
def FinG (a : Geonum F) : Prop := Fin a.angle.rem ∧ Fin a.mag

theorem geonum_cmp_eq_compare {a b : Geonum F} (ha : FinG a) (hb : FinG b) :
    a.cmp b = some (compare (gkey a) (gkey b)) := by
  unfold Geonum.cmp
  rw [cmp_eq_compare ha.1 hb.1, fcmp_eq_compare ha.2 hb.2, compare_akey]
  show _ = some ((compare a.angle.blade b.angle.blade).then
    ((compare (val a.angle.rem) (val b.angle.rem)).then (compare (val a.mag) (val b.mag))))
  cases compare a.angle.blade b.angle.blade <;> cases compare (val a.angle.rem) (val b.angle.rem) <;> rfl

theorem le_iff_key {a b : Geonum F} (ha : FinG a) (hb : FinG b) : a.le b = true ↔ gkey a ≤ gkey b := by
  unfold Geonum.le
  rw [geonum_cmp_eq_compare ha hb, ← compare_le_iff_le]
  simp

/-- (S) on finite fields the sort relation is the lexicographic order on `(blade, value of remainder, value of magnitude)` -/
theorem le_iff_float {a b : Geonum F} (ha : FinG a) (hb : FinG b) :
    a.le b = true ↔ a.angle.blade < b.angle.blade ∨ (a.angle.blade = b.angle.blade ∧
      (val a.angle.rem < val b.angle.rem ∨ (val a.angle.rem = val b.angle.rem ∧ val a.mag ≤ val b.mag))) := by
  rw [le_iff_key ha hb, gkey, gkey, Prod.Lex.toLex_le_toLex, Prod.Lex.toLex_le_toLex]

theorem le_trans_float {a b c : Geonum F} (ha : FinG a) (hb : FinG b) (hc : FinG c)
    (hab : a.le b = true) (hbc : b.le c = true) : a.le c = true :=
  (le_iff_key ha hc).mpr (le_trans ((le_iff_key ha hb).mp hab) ((le_iff_key hb hc).mp hbc))

theorem le_total_float {a b : Geonum F} (ha : FinG a) (hb : FinG b) : (a.le b || b.le a) = true := by
  rw [Bool.or_eq_true, le_iff_key ha hb, le_iff_key hb ha]
  exact le_total _ _

/-- (S) **sorting in rounded arithmetic**: for every list of numbers with finite fields, `sort` never panics and returns a permutation
    of its input in non-decreasing order (`Vec::sort` modelled by the stable `List.mergeSort` on the model `cmp`) -/
theorem sort_float (l : List (Geonum F)) (hl : ∀ a ∈ l, FinG a) :
    ∃ s, Geonum.sort l = some s ∧ s.Perm l ∧ s.Pairwise (fun a b => a.cmp b ≠ some .gt) := by
  classical
  refine ⟨l.mergeSort Geonum.le, ?_, List.mergeSort_perm l _, ?_⟩
  · unfold Geonum.sort
    rw [if_pos (List.all_eq_true.mpr fun a ha => by rw [cmp_refl (hl a ha).1]; rfl)]
  · -- the library's merge-sort theorem wants a globally lawful relation: `≤` on keys is one, and on the members of `l` it is `le`
    have hcongr := List.map_mergeSort (r := Geonum.le) (s := fun a b : Geonum F => decide (gkey a ≤ gkey b))
      (f := id) (l := l) (fun a ha b hb => by
        simp only [id]; exact Bool.eq_iff_iff.mpr (by rw [le_iff_key (hl a ha) (hl b hb), decide_eq_true_iff]))
    rw [List.map_id, List.map_id] at hcongr
    have hp := List.pairwise_mergeSort (le := fun a b : Geonum F => decide (gkey a ≤ gkey b))
      (fun a b c hab hbc => by simp only [decide_eq_true_iff] at *; exact le_trans hab hbc)
      (fun a b => by simp only [Bool.or_eq_true, decide_eq_true_iff]; exact le_total _ _) l
    rw [← hcongr] at hp
    have hmem : ∀ a ∈ l.mergeSort Geonum.le, FinG a := fun a ha => hl a ((List.mergeSort_perm l _).mem_iff.mp ha)
    refine (List.Pairwise.and_mem.mp hp).imp ?_
    rintro a b ⟨ha, hb, h⟩
    rw [decide_eq_true_iff, ← le_iff_key (hmem a ha) (hmem b hb)] at h
    unfold Geonum.le at h
    simpa using h

end S

/-- (E) **sorting**: over exact reals every value is finite, so `sort` never panics and returns a permutation of its input in
    non-decreasing order, for all lists -/
theorem sort_real (l : List (Geonum ℝ)) :
    ∃ s, Geonum.sort l = some s ∧ s.Perm l ∧ s.Pairwise (fun a b => a.cmp b ≠ some .gt) :=
  sort_float (F := ℝ) l (fun _ _ => ⟨trivial, trivial⟩)

example {F : Type} [FloatSpec F] : Fin (⟨zero, 3⟩ : Angle F).rem := fin_zero

/-- (R) every list of binary64 geometric numbers sorts: no panic, a permutation, non-decreasing under `cmp` -/
theorem sort_rounded (l : List (Geonum R64)) :
    ∃ s, Geonum.sort l = some s ∧ s.Perm l ∧ s.Pairwise (fun a b => a.cmp b ≠ some .gt) :=
  sort_float (F := R64) l (fun _ _ => ⟨trivial, trivial⟩)

end GeonumModel.C16
