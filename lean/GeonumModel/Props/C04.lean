/-
  C04 — Angle subtraction and scalar division undo addition, forward-only.
  G = any arithmetic; S = any arithmetic satisfying `FloatSpec`.  `T a = blade·(π/2) + rem`.
-/
import GeonumModel.Spec.RoundWitness
import GeonumModel.Lemmas.Exact
import GeonumModel.Lemmas.FloatDivF

namespace GeonumModel.C04
open GeonumModel FloatLike FloatSpec Angle

noncomputable def T {F : Type} [FloatSpec F] (a : Angle F) : ℝ := (a.blade : ℝ) * val (qp : F) + val a.rem

section G
variable {F : Type} [FloatLike F]

/-- (G) all 8 spellings of angle-by-angle subtraction/division are the same function, and so are both of `Angle / f64` -/
theorem spellings (a b : Angle F) (k : F) :
    subVR a b = subVV a b ∧ subRV a b = subVV a b ∧ subRR a b = subVV a b ∧
    divVV a b = subVV a b ∧ divVR a b = subVV a b ∧ divRV a b = subVV a b ∧ divRR a b = subVV a b ∧
    subVV a b = a.geometricSub b ∧ a.divFR k = a.divF k :=
  ⟨rfl, rfl, rfl, rfl, rfl, rfl, rfl, rfl, rfl⟩

/-- (G) the blade wrap: a non-negative difference is kept exactly (no spurious turns); a negative one becomes the
    congruent count in `0..3` (fewer than one full turn of blades), never a negative angle -/
theorem wrap4_laws (d : ℤ) :
    (0 ≤ d → (wrap4 d : ℤ) = d) ∧ (d < 0 → wrap4 d < 4) ∧ ((wrap4 d : ℤ) % 4 = d % 4) ∧ d ≤ (wrap4 d : ℤ) :=
  ⟨wrap4_nonneg d, wrap4_neg_lt d, wrap4_mod d, wrap4_ge d⟩
end G

section S
variable {F : Type} [FloatSpec F]

/-- (S) the difference of two canonical angles is canonical (never a negative remainder) -/
theorem sub_inv {a b : Angle F} (ha : a.Inv) (hb : b.Inv) : (a.geometricSub b).Inv := geometricSub_inv ha hb

/-- (S) `a − a` is literally the zero angle `Angle { rem: 0.0, blade: 0 }` -/
theorem sub_self {a : Angle F} (ha : a.Inv) : a.geometricSub a = ⟨zero, 0⟩ := by
  have ht := test_of_val_eq ha.1 ha.1 fin_e15 rfl val_e15_pos
  unfold geometricSub
  simp [ht, wrap4]

/-- (S/B) subtracting a smaller-or-equal total returns the difference of totals to within the boundary tolerance plus the
    rounding of two additions (`< 1e-15`), with no spurious turns — for every blade count -/
theorem sub_total {a b : Angle F} (ha : a.Inv) (hb : b.Inv)
    (hle : b.blade < a.blade ∨ (b.blade = a.blade ∧ val b.rem ≤ val a.rem)) :
    |T (a.geometricSub b) - (T a - T b)| < val (e10 : F) + 1 / 10 ^ 15 := by
  obtain ⟨δ, m, hδ, _, hm, h⟩ := sub_total_wrap (val (qp : F)) ha hb
  rw [_root_.sub_self, abs_zero, add_zero] at hδ
  have e : T (a.geometricSub b) - (T a - T b) = δ := by
    show Tw _ _ - (Tw _ a - Tw _ b) = δ
    rw [h, hm hle, Int.cast_zero]; ring
  rwa [e]

/-- (S/B) subtracting a larger total returns the equivalent forward rotation: congruent to the difference of totals modulo
    whole turns (to within the tolerance), at most one full turn (blade ≤ 4, and exactly 4 only with remainder 0) -/
theorem sub_forward {a b : Angle F} (ha : a.Inv) (hb : b.Inv)
    (hgt : a.blade < b.blade ∨ (a.blade = b.blade ∧ val a.rem < val b.rem)) :
    (∃ m : ℤ, 0 ≤ m ∧ |T (a.geometricSub b) - (T a - T b) - (m : ℝ) * (4 * val (qp : F))| < val (e10 : F) + 1 / 10 ^ 15) ∧
    (a.geometricSub b).blade ≤ 4 ∧ ((a.geometricSub b).blade = 4 → val (a.geometricSub b).rem = 0) := by
  obtain ⟨δ, m, hδ, hm0, _, h⟩ := sub_total_wrap (val (qp : F)) ha hb
  rw [_root_.sub_self, abs_zero, add_zero] at hδ
  obtain ⟨_, s, c, hs, hc, hbl, _, hc1, _⟩ := geometricSub_spec ha hb
  -- the blade difference `D` (borrow included) is negative, or 0: the wrap leaves at most 3 blades, the final carry one more
  have hw : wrap4 ((a.blade : ℤ) - (b.blade : ℤ) + s) ≤ 3 := by
    by_cases hDn : (a.blade : ℤ) - (b.blade : ℤ) + s < 0
    · have := wrap4_neg_lt _ hDn; omega
    · have hD0 : (a.blade : ℤ) - (b.blade : ℤ) + s = 0 := by
        rcases hgt with h | ⟨h, _⟩ <;> rcases hs with rfl | rfl <;> omega
      rw [hD0]; decide
  refine ⟨⟨m, hm0, ?_⟩, by omega, fun h4 => hc1 (by omega)⟩
  have e : T (a.geometricSub b) - (T a - T b) - (m : ℝ) * (4 * val (qp : F)) = δ := by
    show Tw _ _ - (Tw _ a - Tw _ b) - _ = δ
    rw [h]; ring
  rwa [e]

/-- (S/B) **`(a+b) − b` returns `a`**: the total is within two tolerances of `T a`, with no spurious turns -/
theorem add_sub_cancel {a b : Angle F} (ha : a.Inv) (hb : b.Inv) :
    |T ((a.geometricAdd b).geometricSub b) - T a| < 2 * (val (e10 : F) + 1 / 10 ^ 15) := by
  have hx := geometricAdd_inv ha hb
  have htot : |T (a.geometricAdd b) - (T a + T b)| < _ := (geometricAdd_total ha hb).1
  have hle : b.blade < (a.geometricAdd b).blade ∨ (b.blade = (a.geometricAdd b).blade ∧ val b.rem ≤ val (a.geometricAdd b).rem) := by
    by_cases hlt : b.blade < (a.geometricAdd b).blade
    · exact Or.inl hlt
    · right
      have hnc : (a.geometricAdd b).blade = a.blade + b.blade := by rcases geometricAdd_blade ha hb with h | h <;> omega
      exact ⟨by omega, (geometricAdd_nocarry_rem ha hb hnc).1⟩
  have e : T ((a.geometricAdd b).geometricSub b) - T a =
      (T ((a.geometricAdd b).geometricSub b) - (T (a.geometricAdd b) - T b)) + (T (a.geometricAdd b) - (T a + T b)) := by ring
  rw [e, two_mul]
  exact (abs_add_le _ _).trans_lt (add_lt_add (sub_total hx hb hle) htot)

end S

section E
open GeonumModel.Exact

/-- (E) **`a / k` divides the total by `k`** (no whole turns added, slack below `1e-10`), for every `k > 0` with `T a / k ≤ 2^42`;
    in particular `a / 1` returns `a`'s total -/
theorem divF_total_real {a : Angle ℝ} {k : ℝ} (ha : a.Inv) (hk : 0 < k) (hb : Exact.T a / k ≤ 2 ^ 42) :
    ∃ δ : ℝ, |δ| < 1 / 10 ^ 10 ∧ Exact.T (a.divF k) = Exact.T a / k + δ ∧ a.divFR k = a.divF k := by
  have hpi := Real.pi_pos
  have hT0 : 0 ≤ Exact.T a := by
    unfold Exact.T
    have : 0 ≤ a.rem := ha.2.1
    positivity
  have hdef : a.divF k = Angle.new (Exact.T a / k) Real.pi := by
    unfold Angle.divF
    simp only [r_add, r_mul, r_div, pi_real, two_real]
    rfl
  have hq : Exact.T a / k * Real.pi / Real.pi = Exact.T a / k := by field_simp
  have h0 : 0 ≤ Exact.T a / k * Real.pi / Real.pi := by rw [hq]; positivity
  have hb' : |Exact.T a / k * Real.pi / Real.pi| ≤ 2 ^ 42 := by rw [hq, abs_of_nonneg (by positivity)]; exact hb
  have hfast : (feq (Real.pi : ℝ) (two : ℝ) && feq (FloatLike.fract (Exact.T a / k)) (zero : ℝ)) = false := by
    have : feq (Real.pi : ℝ) (two : ℝ) = false := by
      rw [two_real, r_eq]
      have := Real.pi_gt_three
      simp; linarith
    simp [this]
  obtain ⟨δ, hδ, hT⟩ := new_total_nonneg_real hb' h0 hfast
  rw [hq] at hT
  exact ⟨δ, hδ, by rw [hdef]; exact hT, rfl⟩

end E

section B
variable {F : Type} [FloatSpec F]

/-- (B) **dividing an angle by a positive number divides its total, in rounded arithmetic**: for every canonical angle with up to
    `2^42` blades and every finite divisor `k ≥ 1e-100` with quotient total at most `2^40` radians, the result is canonical, both
    spellings agree, and the float total `Tq = blade·(π_f/2) + rem` of `a / k` is `Tq a / k` to within the `1e-10` snap plus
    `16·2⁻⁵³` relative — through all seven roundings (`blade·qp`, `+ rem`, `/ k`, `· π`, `/ π`, exact `fmod`, snap); no whole turn
    appears or disappears -/
theorem divF_float {a : Angle F} {k : F} (ha : a.Inv) (hbl : a.blade ≤ 2 ^ 42) (hk : Fin k)
    (hk0 : 1 / 10 ^ 100 ≤ val k) (hs : Angle.Tq a / val k ≤ 2 ^ 40) :
    (a.divF k).Inv ∧ a.divFR k = a.divF k ∧
    |Angle.Tq (a.divF k) - Angle.Tq a / val k| < val (e10 : F) + (Angle.Tq a / val k) * (16 * (1 / 2 ^ 53)) + 1 / 10 ^ 150 :=
  Angle.divF_float ha hbl hk hk0 hs

/-- the two spellings of the total used in this file and in the lemma layer are the same function -/
theorem T_eq_Tq (a : Angle F) : T a = Angle.Tq a := rfl

end B

/-- non-vacuity of `divF_float`: `[blade 3, rem 0] / 2.0` in any conforming arithmetic -/
example {F : Type} [FloatSpec F] :
    (Angle.divF (⟨zero, 3⟩ : Angle F) two).Inv := by
  have h2 : val (two : F) = 2 := val_two
  have hq := val_qp_lt (F := F); have hq' := val_qp_gt (F := F)
  refine (divF_float (inv_zero 3) (by norm_num) fin_two (by
    rw [h2]
    calc (1:ℝ) / 10 ^ 100 ≤ 1 := by rw [div_le_one (by positivity)]; exact one_le_pow₀ (by norm_num)
      _ ≤ 2 := by norm_num) ?_).1
  rw [Angle.Tq_eq_Tw, Angle.Tw_of_val_zero _ val_zero, h2]; push_cast
  have : (3:ℝ) ≤ 2 ^ 40 := by norm_num
  linarith only [hq, this]

example {F : Type} [FloatSpec F] : (⟨zero, 3⟩ : Angle F).Inv ∧ (⟨zero, 5⟩ : Angle F).Inv := ⟨inv_zero 3, inv_zero 5⟩

section R

/-- (R) division of an angle by a scalar for all binary64 operands in the domain -/
theorem divF_rounded {a : Angle R64} {k : R64} (ha : a.Inv) (hbl : a.blade ≤ 2 ^ 42)
    (hk0 : 1 / 10 ^ 100 ≤ k.v) (hs : Angle.Tq a / k.v ≤ 2 ^ 40) :
    (a.divF k).Inv ∧ a.divFR k = a.divF k ∧
    |Angle.Tq (a.divF k) - Angle.Tq a / k.v| < (e10 : R64).v + (Angle.Tq a / k.v) * (16 * (1 / 2 ^ 53)) + 1 / 10 ^ 150 :=
  divF_float (F := R64) ha hbl trivial hk0 hs

end R

end GeonumModel.C04
