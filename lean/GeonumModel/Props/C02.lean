/-
  C02 — Constructors denote exactly the angle and vector they are given.
-/
import GeonumModel.Spec.RoundWitness
import GeonumModel.Lemmas.ExactAdd
import GeonumModel.Lemmas.FloatCartesian
import GeonumModel.Lemmas.FloatNew

namespace GeonumModel.C02
open GeonumModel FloatLike FloatSpec Angle Geonum

section S
variable {F : Type} [FloatSpec F]

/-- (S) exact quarter turns: `Angle::new(k as f64, 2.0)` is literally `k` blades and remainder `0.0`, for every `k < 2^53`;
    the dimension constructor is the same thing with the magnitude attached -/
theorem new_quarter_turns (k : ℕ) (hk : k < 2 ^ 53) (m : F) :
    Angle.new (FloatLike.ofNat k : F) two = ⟨zero, k⟩ ∧ Geonum.createDimension m k = ⟨m, ⟨zero, k⟩⟩ := by
  refine ⟨new_nat k hk, ?_⟩
  unfold Geonum.createDimension; rw [new_nat k hk]

/-- (S) the constant table every other operation builds on: `0`, `π/2`, `π`, `3π/2`, `−π/2` (as the forward `3π/2`), `4π` -/
theorem constant_table :
    Angle.new (zero : F) one ≈ₐ ⟨zero, 0⟩ ∧ Angle.new (one : F) one ≈ₐ ⟨zero, 2⟩ ∧ Angle.new (four : F) one ≈ₐ ⟨zero, 8⟩ ∧
    Angle.new (one : F) two = ⟨zero, 1⟩ ∧ Angle.new (three : F) two = ⟨zero, 3⟩ ∧ Angle.new (fneg one : F) two = ⟨zero, 3⟩ ∧
    Angle.newWithBlade 2 (zero : F) one = ⟨zero, 2⟩ :=
  ⟨new_zero_one, new_one_one, new_four_one, new_one_two, new_three_two, new_negone_two, newWithBlade_zero 2 (by norm_num)⟩

/-- (S) **general path, non-negative total**: writing `nt` for the float total `(p·π)/d` the constructor itself computes,
    the result holds exactly `⌊nt/(π/2)⌋` quarter turns with `blade·(π/2) + rem = nt` as an identity (the `fmod` is exact),
    unless the remainder was within `1e-10` of a quarter turn, in which case it is the next blade with remainder 0 and the
    total moves by less than `1e-10`.  Relies on fix f40c5b0 (blade derived from the remainder). -/
theorem new_decomposition {p d : F} (hp : Fin p) (hd : Fin d) (hpb : |val p| ≤ 10 ^ 200)
    (hdl : 1 / 10 ^ 200 ≤ |val d|) (hq : |val p * piV F / val d| ≤ 2 ^ 42)
    (hfast : (feq d two && feq (FloatLike.fract p) zero) = false) :
    let nt := val (newTotal p d)
    let r := Angle.new p d
    (r.blade = ⌊nt / val (qp : F)⌋₊ ∧ (r.blade : ℝ) * val (qp : F) + val r.rem = nt) ∨
    (r.blade = ⌊nt / val (qp : F)⌋₊ + 1 ∧ val r.rem = 0 ∧ |(r.blade : ℝ) * val (qp : F) - nt| < val (e10 : F)) := by
  intro nt r
  obtain ⟨hf, h0, h1⟩ := newTotal_spec ⟨hp, hd, hpb, hdl, hq⟩
  rw [show r = newGeneral p d from new_eq_general hfast]
  exact (newCore_spec (newTotal p d) hf h0 h1).2

/-- (S) an explicit blade offset adds exactly that many quarter turns and leaves the remainder's value untouched -/
theorem newWithBlade_adds {p d : F} (k : ℕ) (hk : k < 2 ^ 53) (hi : (Angle.new p d).Inv) :
    (Angle.newWithBlade k p d).blade = (Angle.new p d).blade + k ∧
    val (Angle.newWithBlade k p d).rem = val (Angle.new p d).rem := by
  have h := add_quarters hi k hk
  exact ⟨h.1, h.2.2⟩

/-- (S) scalar constructor: magnitude `|v|`; a non-negative value (including `±0`) sits on blade 0, a negative one on
    blade 2 (a half turn), remainder of value 0 in both cases -/
theorem scalar_spec {v : F} (hv : Fin v) :
    val (Geonum.scalar v).mag = |val v| ∧ val (Geonum.scalar v).angle.rem = 0 ∧
    (0 ≤ val v → (Geonum.scalar v).angle.blade = 0) ∧ (val v < 0 → (Geonum.scalar v).angle.blade = 2) := by
  obtain ⟨_, hm, h0, h2⟩ := Geonum.scalar_spec hv
  refine ⟨hm, ?_, fun h => (h0 h).whole.1, fun h => (h2 h).whole.1⟩
  rcases le_or_gt 0 (val v) with h | h
  · exact (h0 h).whole.2.2
  · exact (h2 h).whole.2.2

/-- (B) **accuracy of the constructor's raw total**: whichever order of operations the normal-range test selects, the float
    total is within a relative `8·2⁻⁵³` (four ulps) of the real `p·π/d` (π being the float constant's value), plus an absolute
    `2⁻¹⁰⁷⁰` that only matters for totals that are themselves subnormal.  Without the guard of fix 1409e77 the absolute term would be
    `2⁻¹⁰⁷⁵/|d|`, unbounded as `d → 0` — the digits a subnormal product loses. -/
theorem raw_total_accuracy {p d : F} (hp : Fin p) (hd : Fin d) (hpb : |val p| ≤ 10 ^ 200)
    (hdl : 1 / 10 ^ 200 ≤ |val d|) (hq : |val p * piV F / val d| ≤ 2 ^ 42) :
    |val (newRawTotal p d) - val p * piV F / val d| ≤ |val p * piV F / val d| * (8 / 2 ^ 53) + 1 / 2 ^ 1070 :=
  Angle.rawTotal_accuracy ⟨hp, hd, hpb, hdl, hq⟩

/-- (B) **main clause in rounded arithmetic, `p ≥ 0`, `d > 0`, either path**: the result is canonical and its float total
    `Tq = blade·(π_f/2) + rem` is `p·π_f/d` to within the `1e-10` snap plus `8·2⁻⁵³` relative (`+ 2⁻¹⁰⁷⁰`).  (`π_f` is the binary64
    constant; it differs from π by less than `2e-16`, i.e. by less than one more ulp of the total.) -/
theorem new_total_float {p d : F} (hp : Fin p) (hd : Fin d) (hpb : |val p| ≤ 10 ^ 200)
    (hdl : 1 / 10 ^ 200 ≤ |val d|) (hq : |val p * piV F / val d| ≤ 2 ^ 42) (hp0 : 0 ≤ val p) (hd0 : 0 < val d) :
    (Angle.new p d).Inv ∧
    |Angle.Tq (Angle.new p d) - val p * piV F / val d| < val (e10 : F) + val p * piV F / val d * (8 / 2 ^ 53) + 1 / 2 ^ 1070 :=
  Angle.new_total_float hp hd hpb hdl hq hp0 hd0

/-- (B) **the blade count is `⌊2p/d⌋` in rounded arithmetic** whenever `p·π_f/d` is clear of the two ends of its quarter turn by
    the margin `1e-10 + (p·π_f/d)·8·2⁻⁵³ + 2⁻¹⁰⁷⁰`: "exactly floor(2p/d) quarter turns, to within the boundary tolerance plus a few
    ulps of the total".  Inside the margin the neighbouring count with the matching remainder is returned (`new_total_float`). -/
theorem new_blade_float {p d : F} (hp : Fin p) (hd : Fin d) (hpb : |val p| ≤ 10 ^ 200)
    (hdl : 1 / 10 ^ 200 ≤ |val d|) (hq : |val p * piV F / val d| ≤ 2 ^ 42) (hp0 : 0 ≤ val p) (hd0 : 0 < val d) (n : ℕ)
    (hlo : (n : ℝ) * val (qp : F) + (val (e10 : F) + val p * piV F / val d * (8 / 2 ^ 53) + 1 / 2 ^ 1070) ≤ val p * piV F / val d)
    (hhi : val p * piV F / val d + (val (e10 : F) + val p * piV F / val d * (8 / 2 ^ 53) + 1 / 2 ^ 1070) ≤ ((n : ℝ) + 1) * val (qp : F)) :
    (Angle.new p d).blade = n :=
  Angle.new_blade_float hp hd hpb hdl hq hp0 hd0 n hlo hhi

/-- (B) **the repaired Cartesian constructor keeps the length of every finite vector** (fix 9118133): whenever the rescaled branch is taken
    — the sum of squares is not a normal number, i.e. components below ~1.5e-154 or above ~1.3e154 — the magnitude
    `s·√((x/s)² + (y/s)²)`, `s = max(|x|,|y|)`, is finite and equals the true length `√(x² + y²)` to within `11·2⁻⁵³` relative plus the
    subnormal absolute error `2⁻¹⁰⁷⁵`, for `0 < s ≤ 1e120` (the contract's `InRange` is asserted up to `1e250`); before the fix the same inputs
    gave `0` resp. `inf`.  In the other branch the magnitude is the unchanged `√(x·x + y·y)` (`geonum_ctors`). -/
theorem newFromCartesian_rescaled_float {x y : F} (hx : Fin x) (hy : Fin y) (hs0 : 0 < max |val x| |val y|)
    (hs1 : max |val x| |val y| ≤ 10 ^ 120)
    (hbr : (FloatLike.isNormal (fadd (fmul x x) (fmul y y)) || feq (fmax (fabs x) (fabs y)) zero
          || !(FloatLike.isFinite (fmax (fabs x) (fabs y)))) = false) :
    Fin (Geonum.newFromCartesian x y).mag ∧
    |val (Geonum.newFromCartesian x y).mag - Real.sqrt (val x * val x + val y * val y)|
      ≤ Real.sqrt (val x * val x + val y * val y) * (11 * (1 / 2 ^ 53)) + 1 / 2 ^ 1075 := by
  simp only [Geonum.newFromCartesian, hbr, Bool.false_eq_true, if_false]
  exact Geonum.rescaled_mag_float hx hy hs0 hs1

/-- (B) **the magnitude of `Geonum::new_from_cartesian` in rounded arithmetic, every finite non-zero vector** (`max(|x|,|y|) ≤ 1e120`,
    both branches of the repaired code): finite, and the true length `√(x² + y²)` to within `11·2⁻⁵³` relative plus `2⁻¹⁰⁷⁵` -/
theorem newFromCartesian_mag_float {x y : F} (hx : Fin x) (hy : Fin y) (hs0 : 0 < max |val x| |val y|)
    (hs1 : max |val x| |val y| ≤ 10 ^ 120) :
    Fin (Geonum.newFromCartesian x y).mag ∧
    |val (Geonum.newFromCartesian x y).mag - Real.sqrt (val x * val x + val y * val y)|
      ≤ Real.sqrt (val x * val x + val y * val y) * (11 * (1 / 2 ^ 53)) + 1 / 2 ^ 1075 := by
  by_cases hn : FloatLike.isNormal (fadd (fmul x x) (fmul y y)) = true
  · simp only [Geonum.newFromCartesian, hn, Bool.true_or, if_true]
    obtain ⟨hf, h⟩ := Geonum.direct_mag_float hx hy (le_trans (le_max_left _ _) hs1) (le_trans (le_max_right _ _) hs1) hn
    exact ⟨hf, h.trans (add_le_add_left (mul_le_mul_of_nonneg_left (by norm_num) (Real.sqrt_nonneg _)) _)⟩
  · obtain ⟨hfax, hvax⟩ := fabs_spec hx
    obtain ⟨hfay, hvay⟩ := fabs_spec hy
    obtain ⟨hfs, hvs⟩ := fmax_spec hfax hfay
    rw [hvax, hvay] at hvs
    have hz : feq (fmax (fabs x) (fabs y)) (zero : F) = false := by
      rw [Bool.eq_false_iff]; intro h
      have := (feq_spec hfs fin_zero).mp h
      rw [hvs, val_zero] at this; linarith
    have hfin := isFinite_spec hfs
    exact newFromCartesian_rescaled_float hx hy hs0 hs1 (by simp [hn, hz, hfin])

/-- (B) **a negative `p/d` in rounded arithmetic** (general path — any divisor, any sign combination with `p/d < 0`): the result is canonical
    and its float total is `X = p·π_f/d` plus a whole number `n` of turns, to within the `1e-10` snap plus `(14·|X| + 46)·2⁻⁵³`: the same
    direction as `X` modulo `2π_f`, realised as a forward rotation (the total of a canonical angle is non-negative) — through the raw total in
    either order of operations, `ceil(|X|/2π_f)`, the rounded shift `4n·(π_f/2)`, the rounded sum, the clamp at zero, the exact `fmod` and the
    snap.  The exact fast path (`d = 2`, integral `p < 0`) lands on blade `p + 4⌈(3−p)/4⌉ ∈ {3,…,6}` with remainder `0.0` (S-lemma
    `Angle.new_negInt_two`).  "At most one turn unless `2p/d` is an integer" is proved in exact arithmetic (`negative_forward_real`). -/
theorem new_negative_float {p d : F} (hp : Fin p) (hd : Fin d) (hpb : |val p| ≤ 10 ^ 200)
    (hdl : 1 / 10 ^ 200 ≤ |val d|) (hq : |val p * piV F / val d| ≤ 2 ^ 42) (hneg : val p * piV F / val d < 0)
    (hfast : (feq d two && feq (FloatLike.fract p) zero) = false) :
    (Angle.new p d).Inv ∧
    ∃ n : ℕ, |Angle.Tq (Angle.new p d) - (val p * piV F / val d + (n : ℝ) * (4 * val (qp : F)))|
      < val (e10 : F) + (14 * |val p * piV F / val d| + 46) * (1 / 2 ^ 53) + 1 / 10 ^ 300 := by
  obtain ⟨h, n, hn, _⟩ := Angle.new_total_neg_float ⟨hp, hd, hpb, hdl, hq⟩ hneg hfast
  exact ⟨h, n, hn⟩

/-- (B) **at most one full turn is added: a negative `p/d` gives the forward angle within one turn, in rounded arithmetic, for every
    divisor** (general path): with `X = p·π_f/d < 0` the float total of `Angle::new(p, d)` lies in
    `[0, 2π_f + 1e-10 + (24·|X| + 46)·2⁻⁵³]` -/
theorem negative_forward_general_float {p d : F} (hp : Fin p) (hd : Fin d) (hpb : |val p| ≤ 10 ^ 200)
    (hdl : 1 / 10 ^ 200 ≤ |val d|) (hq : |val p * piV F / val d| ≤ 2 ^ 42) (hneg : val p * piV F / val d < 0)
    (hfast : (feq d two && feq (FloatLike.fract p) zero) = false) :
    0 ≤ Angle.Tq (Angle.new p d) ∧
    Angle.Tq (Angle.new p d)
      < 4 * val (qp : F) + val (e10 : F) + (24 * |val p * piV F / val d| + 46) * (1 / 2 ^ 53) + 2 * (1 / 10 ^ 300) := by
  obtain ⟨h, n, hn, hup⟩ := Angle.new_total_neg_float ⟨hp, hd, hpb, hdl, hq⟩ hneg hfast
  rw [abs_lt] at hn
  exact ⟨Tq_nonneg h, by linarith only [hn.2, hup]⟩

/-- (B) **negative radians in rounded arithmetic** (`Angle::new(x, PI)`, `-2^41 ≤ x < 0`, the form every internal re-encoding
    uses): the result is canonical and its float total is `x` plus a whole number `n` of turns, to within the snap plus
    `(14·|x| + 46)·2⁻⁵³` — the same direction modulo `2π_f`, as a forward rotation.  The divisor-`PI` instance of
    `new_negative_float`. -/
theorem new_radians_negative_float {x : F} (hx : Fin x) (hx0 : val x < 0) (hb : -(2 ^ 41) ≤ val x) :
    (Angle.new x (FloatLike.pi : F)).Inv ∧
    ∃ n : ℕ, |Angle.Tq (Angle.new x (FloatLike.pi : F)) - (val x + (n : ℝ) * (4 * val (qp : F)))|
      < val (e10 : F) + (14 * |val x| + 46) * (1 / 2 ^ 53) + 1 / 10 ^ 300 := by
  obtain ⟨h, n, hn, _⟩ := Angle.new_radians_total_neg hx hx0 hb
  exact ⟨h, n, hn⟩

/-- (B) **a negative argument gives the forward angle within one turn, in rounded arithmetic**: for `-2^41 ≤ x < 0` the float total of
    `Angle::new(x, PI)` lies in `[0, 2π_f + 1e-10 + (24·|x| + 46)·2⁻⁵³]` — the "at most one full turn is added beyond what is needed"
    clause for floats (the E-tier form is `negative_forward_real`) -/
theorem negative_forward_float {x : F} (hx : Fin x) (hx0 : val x < 0) (hb : -(2 ^ 41) ≤ val x) :
    0 ≤ Angle.Tq (Angle.new x (FloatLike.pi : F)) ∧
    Angle.Tq (Angle.new x (FloatLike.pi : F))
      < 4 * val (qp : F) + val (e10 : F) + (24 * |val x| + 46) * (1 / 2 ^ 53) + 2 * (1 / 10 ^ 300) := by
  obtain ⟨h, hxx⟩ := newDom_radians hx (by rw [abs_of_neg hx0]; linarith)
  have := negative_forward_general_float hx fin_pi h.p_le h.d_ge h.q_le (by rwa [hxx]) (by simp [feq_pi_two])
  rwa [hxx] at this

end S

section G
variable {F : Type} [FloatLike F]
/-- (G) the Geonum constructors attach the magnitude to the corresponding Angle constructor unchanged -/
theorem geonum_ctors (m p d x y : F) (k : ℕ) (a : Angle F) :
    Geonum.new m p d = ⟨m, Angle.new p d⟩ ∧ Geonum.newWithAngle m a = ⟨m, a⟩ ∧
    Geonum.newWithBlade m k p d = ⟨m, Angle.newWithBlade k p d⟩ ∧
    (Geonum.newFromCartesian x y).angle = Angle.newFromCartesian x y ∧
    (Geonum.newFromCartesian x y).mag =
      (if FloatLike.isNormal (fadd (fmul x x) (fmul y y)) || feq (fmax (fabs x) (fabs y)) zero
          || !(FloatLike.isFinite (fmax (fabs x) (fabs y))) then sqrt (fadd (fmul x x) (fmul y y))
       else fmul (fmax (fabs x) (fabs y)) (sqrt (fadd
          (fmul (fdiv x (fmax (fabs x) (fabs y))) (fdiv x (fmax (fabs x) (fabs y))))
          (fmul (fdiv y (fmax (fabs x) (fabs y))) (fdiv y (fmax (fabs x) (fabs y))))))) := ⟨rfl, rfl, rfl, rfl, rfl⟩
end G

/-! ### E-tier: exact arithmetic — what the constructors denote -/
section E
open GeonumModel.Exact

/-- (E) **`Angle::new(p, d)` denotes `p·π/d`**: for every real `p`, `d` (any sign, fast path or general path) with
    `|p·π/d| ≤ 2^42`, the result is canonical and its total is `p·π/d` up to whole turns and a snap slack below `1e-10` -/
theorem new_denotes_real {p d : ℝ} (hb : |p * Real.pi / d| ≤ 2 ^ 42) :
    (Angle.new p d).Inv ∧
    ∃ (δ : ℝ) (m : ℤ), |δ| < 1 / 10 ^ 10 ∧ T (Angle.new p d) = p * Real.pi / d + δ + (m : ℝ) * (2 * Real.pi) :=
  new_total_real hb

/-- (E) an explicit blade offset adds exactly that many quarter turns to the total -/
theorem newWithBlade_total_real {p d : ℝ} (k : ℕ) (hk : k < 2 ^ 53) (hb : |p * Real.pi / d| ≤ 2 ^ 42) :
    T (Angle.newWithBlade k p d) = T (Angle.new p d) + (k : ℝ) * (Real.pi / 2) := by
  show T ((Angle.new p d).geometricAdd (Angle.new (FloatLike.ofNat k) two)) = _
  rw [new_nat k hk]
  exact Tw_add_whole _ (new_total_real hb).1 fin_zero val_zero

/-- (E) **the Cartesian constructor reproduces the direction of `(x, y)`**: its total is `arg(x + iy)` up to whole turns and the
    snap slack, and its magnitude is the Euclidean norm -/
theorem newFromCartesian_real (x y : ℝ) :
    (Geonum.newFromCartesian x y).mag = Real.sqrt (x * x + y * y) ∧
    ∃ (δ : ℝ) (m : ℤ), |δ| < 1 / 10 ^ 10 ∧
      T (Geonum.newFromCartesian x y).angle = Complex.arg ⟨x, y⟩ + δ + (m : ℝ) * (2 * Real.pi) := by
  refine ⟨?_, ?_⟩
  · -- the magnitude: `√(x² + y²)` directly, or rescaled by the larger component when the sum is not a normal number (fix 9118133)
    simp only [Geonum.newFromCartesian]
    split
    · rfl
    · rename_i hc
      simp only [Bool.or_eq_true, not_or] at hc
      have hs0 : ¬ (feq (fmax (fabs x) (fabs y)) (zero : ℝ) = true) := hc.1.2
      rw [zero_real, r_eq, r_max, r_abs, r_abs] at hs0
      simp only [decide_eq_true_eq] at hs0
      have hspos : 0 < max |x| |y| := lt_of_le_of_ne (le_max_of_le_left (abs_nonneg x)) (Ne.symm hs0)
      show max |x| |y| * Real.sqrt (x / max |x| |y| * (x / max |x| |y|) + y / max |x| |y| * (y / max |x| |y|)) = Real.sqrt (x * x + y * y)
      exact (Geonum.hypot_scale hspos).symm
  have hpi := Real.pi_pos
  have hq : Complex.arg ⟨x, y⟩ / Real.pi * Real.pi / 1 = Complex.arg ⟨x, y⟩ := by field_simp
  have hb : |Complex.arg ⟨x, y⟩ / Real.pi * Real.pi / 1| ≤ 2 ^ 42 := by
    rw [hq]; exact (Complex.abs_arg_le_pi _).trans (Real.pi_lt_four.le.trans (by norm_num))
  obtain ⟨_, δ, m, hδ, hT⟩ := new_total_real (p := Complex.arg ⟨x, y⟩ / Real.pi) (d := 1) hb
  refine ⟨δ, m, hδ, ?_⟩
  have hdef : (Geonum.newFromCartesian x y).angle = Angle.new (Complex.arg ⟨x, y⟩ / Real.pi) 1 := by
    show Angle.newFromCartesian x y = _
    unfold Angle.newFromCartesian
    rw [one_real]; rfl
  rw [hdef, hT, hq]

/-- (E) **a negative argument becomes a forward rotation of fewer than two turns** — at most one turn (blade ≤ 4, exactly 4 only
    with remainder 0) unless it is an exact (integer) quarter-turn count, which lands on blade 3…6 -/
theorem negative_forward_real {p d : ℝ} (hneg : p * Real.pi / d < 0) (hb : |p * Real.pi / d| ≤ 2 ^ 42) :
    (Angle.new p d).blade < 8 ∧
    ((feq d (two : ℝ) && feq (FloatLike.fract p) (zero : ℝ)) = false →
      (Angle.new p d).blade ≤ 4 ∧ ((Angle.new p d).blade = 4 → (Angle.new p d).rem = 0)) := by
  have hpi := Real.pi_pos
  by_cases hfast : (feq d (two : ℝ) && feq (FloatLike.fract p) (zero : ℝ)) = true
  · refine ⟨?_, fun h => by rw [hfast] at h; cases h⟩
    obtain ⟨_, (rfl : d = 2), k, (rfl : p = k)⟩ := fast_args (F := ℝ) trivial trivial hfast
    have hk0' : (k : ℝ) < 0 :=
      lt_of_not_ge fun hc => absurd hneg (not_lt.mpr (div_nonneg (mul_nonneg hc hpi.le) zero_le_two))
    have hk0 : k < 0 := by exact_mod_cast hk0'
    have hkb : |k| < 2 ^ 50 := by
      rw [abs_of_neg hneg] at hb
      have := mul_le_mul_of_nonneg_left Real.pi_gt_three.le (neg_pos.mpr hk0').le
      rw [abs_of_neg hk0]
      have : ((-k : ℤ) : ℝ) < 2 ^ 50 := by push_cast; linarith
      exact_mod_cast this
    have hn := new_two_of_negInt (F := ℝ) (p := k) trivial rfl hk0 hkb
    rw [two_real] at hn
    rw [hn]
    show (k + (-k + 3 + 3) / 4 * 4).toNat < 8
    omega
  · have hfast' : (feq d (two : ℝ) && feq (FloatLike.fract p) (zero : ℝ)) = false := by simpa using hfast
    obtain ⟨n, hnt, hnt0, _, hlt, _⟩ := newTotal_real p d
    have h4 := new_blade_le_four_real hfast' (hlt hneg) hnt0
    exact ⟨by omega, fun _ => h4⟩

end E

/-! PARTIAL: the `⌊2p/d⌋` form of the blade for `p/d ≥ 0` is proved in rounded arithmetic away from the quarter-turn boundaries
    (`new_blade_float`); in exact arithmetic it is not stated as a corollary of its own (`new_denotes_real` gives the total, and
    `Exact.new_general_real` the blade as the floor of the normalised total).  "Fewer than two turns" for negative arguments is
    `negative_forward_real` / `negative_forward_general_float`, and the ulp bound relating the float `(p·π)/d` to `p·π_f/d` is
    `raw_total_accuracy`.  Explored by `oracle.C02.new` (exact rational `⌊2p/d⌋` from the argument bit patterns) and
    `oracle.C02.other`. -/

example {F : Type} [FloatSpec F] : (Angle.new (zero : F) one).Inv :=
  Geonum.base_zero_one.1


/-! ### R — on the arithmetic that really rounds (`R64`) -/
section R

/-- (R) the Cartesian constructor keeps the length of every binary64 vector up to `1e120` -/
theorem newFromCartesian_mag_rounded {x y : R64} (hs0 : 0 < max |x.v| |y.v|) (hs1 : max |x.v| |y.v| ≤ 10 ^ 120) :
    |(Geonum.newFromCartesian x y).mag.v - Real.sqrt (x.v * x.v + y.v * y.v)|
      ≤ Real.sqrt (x.v * x.v + y.v * y.v) * (11 * (1 / 2 ^ 53)) + 1 / 2 ^ 1075 :=
  (newFromCartesian_mag_float (F := R64) trivial trivial hs0 hs1).2

end R

end GeonumModel.C02
