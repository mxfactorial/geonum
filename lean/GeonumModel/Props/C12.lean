/-
  C12 — Rotation, reflection and signed scaling are isometries with the stated direction.
-/
import GeonumModel.Spec.RoundWitness
import GeonumModel.Lemmas.ExactAdd
import GeonumModel.Lemmas.FloatReflect

namespace GeonumModel.C12
open GeonumModel FloatLike FloatSpec Angle

section G
variable {F : Type} [FloatLike F]

/-- (G) rotation returns the magnitude field itself (bit-exact) and the angle sum -/
theorem rotate_spec (g : Geonum F) (r : Angle F) :
    (g.rotate r).mag = g.mag ∧ (g.rotate r).angle = g.angle.geometricAdd r := ⟨rfl, rfl⟩

/-- (G) reflection keeps the magnitude field and never reads the axis's length: axes with the same angle reflect identically -/
theorem reflect_spec (g axis axis' : Geonum F) (h : axis.angle = axis'.angle) :
    (g.reflect axis).mag = g.mag ∧ g.reflect axis = g.reflect axis' ∧
    (g.reflect axis).angle =
      (axis.angle.geometricAdd axis.angle).geometricAdd ((Angle.new four one).geometricSub g.angle.baseAngle) := by
  refine ⟨rfl, ?_, rfl⟩
  unfold Geonum.reflect; rw [h]

/-- (G) scale-rotate: a factor that tests negative is encoded as `|f|` and a half turn (`negate`) before the rotation; any other
    factor multiplies the magnitude as is -/
theorem scaleRotate_spec (g : Geonum F) (f : F) (r : Angle F) :
    (flt f zero = true → g.scaleRotate f r = ⟨fmul g.mag (fabs f), g.angle.negate.geometricAdd r⟩) ∧
    (flt f zero = false → g.scaleRotate f r = ⟨fmul g.mag f, g.angle.geometricAdd r⟩) := by
  constructor <;> intro h <;> simp [Geonum.scaleRotate, h, Geonum.newWithAngle, Angle.add, addVV]
end G

section S
variable {F : Type} [FloatSpec F]

/-- (S) a full turn (`Angle::new(4.0, 2.0)`) adds exactly four blades and preserves grade and remainder value -/
theorem rotate_full_turn {g : Geonum F} (ha : g.angle.Inv) :
    (g.rotate (Angle.new four two)).angle.blade = g.angle.blade + 4 ∧
    (g.rotate (Angle.new four two)).angle.grade = g.angle.grade ∧
    val (g.rotate (Angle.new four two)).angle.rem = val g.angle.rem := by
  have hw : (g.rotate (Angle.new four two)).angle.blade = g.angle.blade + 4 ∧ _ ∧
      val (g.rotate (Angle.new four two)).angle.rem = val g.angle.rem := add_quarters ha 4 (by norm_num)
  refine ⟨hw.1, ?_, hw.2.2⟩
  simp only [grade, hw.1]; omega

/-- (S) rotations keep the angle canonical; blade counts add with at most one carry (so they compose additively, C03) -/
theorem rotate_angle {g : Geonum F} {r : Angle F} (ha : g.angle.Inv) (hr : r.Inv) :
    (g.rotate r).angle.Inv ∧ ((g.rotate r).angle.blade = g.angle.blade + r.blade ∨
      (g.rotate r).angle.blade = g.angle.blade + r.blade + 1) :=
  ⟨geometricAdd_inv ha hr, geometricAdd_blade ha hr⟩

/-- (S) the reflected number never carries fewer blades than twice the axis's, and its angle is canonical -/
theorem reflect_blades {g axis : Geonum F} (hg : g.angle.Inv) (hax : axis.angle.Inv) :
    (g.reflect axis).angle.Inv ∧ 2 * axis.angle.blade ≤ (g.reflect axis).angle.blade := by
  refine ⟨Geonum.reflect_inv hg hax, ?_⟩
  have hbl := geometricAdd_blade hax hax
  have hbl2 := geometricAdd_blade (geometricAdd_inv hax hax) (geometricSub_inv new_four_one.whole_inv (baseAngle_inv hg))
  show 2 * axis.angle.blade ≤ ((axis.angle.geometricAdd axis.angle).geometricAdd
    ((Angle.new four one).geometricSub g.angle.baseAngle)).blade
  rcases hbl with h | h <;> rcases hbl2 with h2 | h2 <;> rw [h2, h] <;> omega

end S

/-! ### E-tier: exact arithmetic — directions -/
section E
open GeonumModel.Exact

/-- (E) rotation adds the totals (slack below `1e-10 + 1e-15` only when the sum snapped to a quarter turn): rotations
    compose additively -/
theorem rotate_total_real {g : Geonum ℝ} {r : Angle ℝ} (hg : g.angle.Inv) (hr : r.Inv) :
    ∃ δ : ℝ, |δ| < 1 / 10 ^ 10 + 1 / 10 ^ 15 ∧ T (g.rotate r).angle = T g.angle + T r + δ :=
  add_total_real hg hr

/-- (E) **reflection sends direction `t` to `2α − t` modulo whole turns**, to within three snap tolerances: the rounded-arithmetic law
    at `F = ℝ`, where `π_f = π` -/
theorem reflect_direction_real {g axis : Geonum ℝ} (hg : g.angle.Inv) (hax : axis.angle.Inv) :
    ∃ (δ : ℝ) (m : ℤ), |δ| < 3 * (1 / 10 ^ 10 + 1 / 10 ^ 15) ∧
      T (g.reflect axis).angle = 2 * T axis.angle - T g.angle + δ + (m : ℝ) * (2 * Real.pi) := by
  simpa only [Tq_real, val_e10_real, four_qp_real] using (Geonum.reflect_direction_float hg hax).2

/-- (E) a number lying on the axis keeps its direction -/
theorem reflect_on_axis_real {g axis : Geonum ℝ} (hg : g.angle.Inv) (hax : axis.angle.Inv) (hon : T g.angle = T axis.angle) :
    ∃ (δ : ℝ) (m : ℤ), |δ| < 3 * (1 / 10 ^ 10 + 1 / 10 ^ 15) ∧
      T (g.reflect axis).angle = T g.angle + δ + (m : ℝ) * (2 * Real.pi) := by
  simpa only [Tq_real, val_e10_real, four_qp_real] using
    Geonum.reflect_on_axis_float hg hax (by rw [Tq_real, Tq_real]; exact hon)

/-- (E) reflecting across the negated axis gives the same direction -/
theorem reflect_negated_axis_real {g axis : Geonum ℝ} (hg : g.angle.Inv) (hax : axis.angle.Inv) :
    ∃ (δ : ℝ) (m : ℤ), |δ| < 3 * (1 / 10 ^ 10 + 1 / 10 ^ 15) ∧
      T (g.reflect axis.negate).angle = 2 * T axis.angle - T g.angle + δ + (m : ℝ) * (2 * Real.pi) := by
  obtain ⟨δ, m, hδ, h⟩ := reflect_direction_real (axis := axis.negate) hg (negate_inv hax)
  exact ⟨δ, m + 1, hδ, by rw [h, show T axis.negate.angle = _ from negate_total_real hax]; push_cast; ring⟩

/-- (E) **reflecting twice restores the direction** (modulo whole turns, within six snap tolerances), and the magnitude field -/
theorem reflect_involution_real {g axis : Geonum ℝ} (hg : g.angle.Inv) (hax : axis.angle.Inv) :
    ((g.reflect axis).reflect axis).mag = g.mag ∧
    ∃ (δ : ℝ) (m : ℤ), |δ| < 6 * (1 / 10 ^ 10 + 1 / 10 ^ 15) ∧
      T ((g.reflect axis).reflect axis).angle = T g.angle + δ + (m : ℝ) * (2 * Real.pi) := by
  simpa only [Tq_real, val_e10_real, four_qp_real] using Geonum.reflect_twice_float hg hax

/-- (E) **scale-rotate multiplies the Cartesian vector by the signed factor and rotates it**: the Cartesian point of
    `g.scale_rotate(f, r)` is `f · e^{i·T r} · cart g` to within `|f|·|g|·(1e-10 + 1e-15)` — for every finite factor, the negative
    ones being encoded as `|f|` and a half turn -/
theorem scaleRotate_cartesian_real {g : Geonum ℝ} {r : Angle ℝ} (f : ℝ) (hg : g.angle.Inv) (hr : r.Inv) (h0 : 0 ≤ g.mag) :
    ‖cart (g.scaleRotate f r) - (f : ℂ) * (polar 1 (T r) * cart g)‖ ≤ |f| * g.mag * (1 / 10 ^ 10 + 1 / 10 ^ 15) := by
  have htarget : (f : ℂ) * (polar 1 (T r) * cart g) = polar (g.mag * f) (T g.angle + T r) := by
    show (f : ℂ) * (polar 1 (T r) * polar g.mag (T g.angle)) = _
    rw [polar_mul, ofReal_mul_polar]
    congr 1 <;> ring
  rw [htarget]
  have key : ∀ δ : ℝ, |δ| < 1 / 10 ^ 10 + 1 / 10 ^ 15 →
      ‖polar (g.mag * f) (T g.angle + T r + δ) - polar (g.mag * f) (T g.angle + T r)‖
        ≤ |f| * g.mag * (1 / 10 ^ 10 + 1 / 10 ^ 15) := by
    intro δ hδ
    refine le_trans (norm_polar_sub_le _ _ _) ?_
    have e : T g.angle + T r + δ - (T g.angle + T r) = δ := by ring
    rw [e, abs_mul, abs_of_nonneg h0, mul_comm g.mag |f|]
    exact mul_le_mul_of_nonneg_left (le_of_lt hδ) (mul_nonneg (abs_nonneg _) h0)
  by_cases hf : f < 0
  · have hlt : flt f (zero : ℝ) = true := by rw [r_lt, zero_real]; simpa using hf
    rw [(scaleRotate_spec g f r).1 hlt]
    obtain ⟨δ, hδ, hT⟩ := add_total_real (negate_inv hg) hr
    show ‖polar (fmul g.mag (fabs f)) (T (g.angle.negate.geometricAdd r)) - _‖ ≤ _
    rw [hT, negate_total_real hg, r_mul, r_abs, abs_of_neg hf]
    have e : T g.angle + Real.pi + T r + δ = (T g.angle + T r + δ) + Real.pi := by ring
    rw [e, polar_add_pi, ← polar_neg]
    have e2 : -(g.mag * -f) = g.mag * f := by ring
    rw [e2]
    have hk := key δ hδ
    rwa [abs_of_neg hf] at hk
  · have hlt : flt f (zero : ℝ) = false := by rw [r_lt, zero_real]; simpa using hf
    rw [(scaleRotate_spec g f r).2 hlt]
    obtain ⟨δ, hδ, hT⟩ := add_total_real hg hr
    show ‖polar (fmul g.mag f) (T (g.angle.geometricAdd r)) - _‖ ≤ _
    rw [hT, r_mul]
    exact key δ hδ

end E

/-! PARTIAL: the Cartesian meaning of scale-rotate is proved in exact arithmetic (`scaleRotate_cartesian_real`); in rounded arithmetic
    `scaleRotate_float` below states it through the magnitude and the float total, not on the Cartesian components (explored by
    `oracle.C12.scale_rotate`). -/

/-! ### S/B-tier: reflection, rotation and `scale_rotate` in ROUNDED arithmetic (float totals `Tq`, whole turns `4·(π_f/2)`) -/
section B
variable {F : Type} [FloatSpec F]

/-- (S/B) **reflection sends direction `t` to `2α − t` modulo whole turns in rounded arithmetic**, to within three snap
    tolerances, and returns the magnitude field itself — for every blade history of the number and of the axis -/
theorem reflect_direction_float {g axis : Geonum F} (hg : g.angle.Inv) (hax : axis.angle.Inv) :
    (g.reflect axis).mag = g.mag ∧
    ∃ (δ : ℝ) (m : ℤ), |δ| < 3 * (val (e10 : F) + 1 / 10 ^ 15) ∧
      Angle.Tq (g.reflect axis).angle = 2 * Angle.Tq axis.angle - Angle.Tq g.angle + δ + (m : ℝ) * (4 * val (qp : F)) :=
  Geonum.reflect_direction_float hg hax

/-- (S/B) a number lying on the axis keeps its direction -/
theorem reflect_on_axis_float {g axis : Geonum F} (hg : g.angle.Inv) (hax : axis.angle.Inv)
    (hon : Angle.Tq g.angle = Angle.Tq axis.angle) :
    ∃ (δ : ℝ) (m : ℤ), |δ| < 3 * (val (e10 : F) + 1 / 10 ^ 15) ∧
      Angle.Tq (g.reflect axis).angle = Angle.Tq g.angle + δ + (m : ℝ) * (4 * val (qp : F)) :=
  Geonum.reflect_on_axis_float hg hax hon

/-- (S/B) reflecting twice across the same axis restores the direction (six snap tolerances) and the magnitude field -/
theorem reflect_twice_float {g axis : Geonum F} (hg : g.angle.Inv) (hax : axis.angle.Inv) :
    ((g.reflect axis).reflect axis).mag = g.mag ∧
    ∃ (δ : ℝ) (m : ℤ), |δ| < 6 * (val (e10 : F) + 1 / 10 ^ 15) ∧
      Angle.Tq ((g.reflect axis).reflect axis).angle = Angle.Tq g.angle + δ + (m : ℝ) * (4 * val (qp : F)) :=
  Geonum.reflect_twice_float hg hax

/-- (S/B) **rotation in rounded arithmetic**: the magnitude field is returned untouched and the float totals add up to one snap and one
    rounding, for every blade history — composing `n` rotations therefore accumulates at most `n·(1e-10 + 1e-15)` -/
theorem rotate_total_float {g : Geonum F} {r : Angle F} (hg : g.angle.Inv) (hr : r.Inv) :
    (g.rotate r).mag = g.mag ∧ (g.rotate r).angle.Inv ∧
    ∃ δ : ℝ, |δ| < val (e10 : F) + 1 / 10 ^ 15 ∧ Angle.Tq (g.rotate r).angle = Angle.Tq g.angle + Angle.Tq r + δ :=
  ⟨rfl, geometricAdd_inv hg hr, Angle.add_total_q hg hr⟩

/-- (S/B) **a history of rotations in rounded arithmetic**: by induction over any list of canonical rotation angles, the magnitude field is
    untouched, every intermediate angle is canonical, and the float total is the start total plus the sum of the rotation totals up to
    `n·(1e-10 + 1e-15)` -/
theorem rotate_history_float (rs : List (Angle F)) (g : Geonum F) (hg : g.angle.Inv) (hrs : ∀ r ∈ rs, r.Inv) :
    (rs.foldl Geonum.rotate g).mag = g.mag ∧ (rs.foldl Geonum.rotate g).angle.Inv ∧
    ∃ δ : ℝ, |δ| ≤ (rs.length : ℝ) * (val (e10 : F) + 1 / 10 ^ 15) ∧
      Angle.Tq (rs.foldl Geonum.rotate g).angle = Angle.Tq g.angle + (rs.map Angle.Tq).sum + δ := by
  induction rs generalizing g with
  | nil => exact ⟨rfl, hg, 0, by simp, by simp⟩
  | cons r rs ih =>
    obtain ⟨hm, hi, δ1, hδ1, ht⟩ := rotate_total_float (g := g) hg (hrs r List.mem_cons_self)
    obtain ⟨ihm, ihi, δ2, hδ2, iht⟩ := ih (g.rotate r) hi (fun x hx => hrs x (List.mem_cons_of_mem _ hx))
    refine ⟨by simp only [List.foldl_cons]; rw [ihm, hm], ihi, δ1 + δ2, ?_, ?_⟩
    · rw [List.length_cons, Nat.cast_succ, add_one_mul]
      linarith only [abs_add_le δ1 δ2, hδ1, hδ2]
    · simp only [List.foldl_cons, List.map_cons, List.sum_cons]
      rw [iht, ht]; ring

/-- (S/B) **`scale_rotate` in rounded arithmetic**: the magnitude is the one rounded product of `|g|` with `|f|` (negative factor) resp. `f`,
    and the angle's float total is `T g + T r`, plus exactly a half turn when the factor tests negative — i.e. the Cartesian vector is multiplied
    by the signed factor and rotated — up to one snap and one rounding, for every blade history -/
theorem scaleRotate_float {g : Geonum F} {f : F} {r : Angle F} (hg : g.angle.Inv) (hr : r.Inv) (hm : Fin g.mag) (hf : Fin f) :
    (flt f zero = true →
      (g.scaleRotate f r).mag = fmul g.mag (fabs f) ∧
      ∃ δ : ℝ, |δ| < val (e10 : F) + 1 / 10 ^ 15 ∧
        Angle.Tq (g.scaleRotate f r).angle = Angle.Tq g.angle + 2 * val (qp : F) + Angle.Tq r + δ) ∧
    (flt f zero = false →
      (g.scaleRotate f r).mag = fmul g.mag f ∧
      ∃ δ : ℝ, |δ| < val (e10 : F) + 1 / 10 ^ 15 ∧ Angle.Tq (g.scaleRotate f r).angle = Angle.Tq g.angle + Angle.Tq r + δ) :=
  Geonum.scaleRotate_float hg hr hm hf

end B

example {F : Type} [FloatSpec F] : (⟨zero, 6⟩ : Angle F).Inv := inv_zero 6


/-! ### R — on the arithmetic that really rounds (`R64`: round-to-nearest on the binary64 grid, correctly rounded libm) -/
section R

/-- (R) reflecting twice restores the direction, for all binary64 numbers and axes with canonical angles -/
theorem reflect_twice_rounded {g axis : Geonum R64} (hg : g.angle.Inv) (hax : axis.angle.Inv) :
    ((g.reflect axis).reflect axis).mag = g.mag ∧
    ∃ (δ : ℝ) (m : ℤ), |δ| < 6 * ((e10 : R64).v + 1 / 10 ^ 15) ∧
      Angle.Tq ((g.reflect axis).reflect axis).angle = Angle.Tq g.angle + δ + (m : ℝ) * (4 * (qp : R64).v) :=
  reflect_twice_float (F := R64) hg hax

end R

end GeonumModel.C12
