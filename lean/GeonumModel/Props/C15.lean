/-
  C15 — Geonum cos/sin/tan/adj/opp carry signed trig values on the quarter-turn lattice.
-/
import GeonumModel.Spec.RoundWitness
import GeonumModel.Lemmas.Exact
import GeonumModel.Lemmas.FloatTrig
import GeonumModel.Props.C05

namespace GeonumModel.C15
open GeonumModel FloatLike FloatSpec Angle Geonum

section G
variable {F : Type} [FloatLike F]

/-- (G) `tan` is exactly the quotient of that sine by that cosine; `adj` / `opp` are cosine / sine scaled by the magnitude -/
theorem tan_adj_opp_def (a : Angle F) (g : Geonum F) :
    Geonum.tan a = (Geonum.sin a).divVR (Geonum.cos a) ∧
    g.adj = (Geonum.cos g.angle).scale g.mag ∧ g.opp = (Geonum.sin g.angle).scale g.mag := ⟨rfl, rfl, rfl⟩

/-- (G) cosine and sine return `|libm value|`, at the base angle or the base angle plus a half turn exactly when the value tests
    negative -/
theorem cos_sin_structure (a : Angle F) :
    (Geonum.cos a).mag = fabs (FloatLike.cos a.gradeAngle) ∧ (Geonum.sin a).mag = fabs (FloatLike.sin a.gradeAngle) ∧
    (flt (FloatLike.cos a.gradeAngle) zero = false → (Geonum.cos a).angle = Angle.new zero one) ∧
    (flt (FloatLike.cos a.gradeAngle) zero = true → (Geonum.cos a).angle = (Angle.new zero one).geometricAdd (Angle.new one one)) ∧
    (flt (FloatLike.sin a.gradeAngle) zero = false → (Geonum.sin a).angle = Angle.new one two) ∧
    (flt (FloatLike.sin a.gradeAngle) zero = true → (Geonum.sin a).angle = (Angle.new one two).geometricAdd (Angle.new one one)) := by
  have hc := Geonum.signedAt_spec (FloatLike.cos a.gradeAngle) (Angle.new zero one)
  have hs := Geonum.signedAt_spec (FloatLike.sin a.gradeAngle) (Angle.new one two)
  exact ⟨hc.1, hs.1, hc.2.1, hc.2.2, hs.2.1, hs.2.2⟩
end G

section S
variable {F : Type} [FloatSpec F]

/-- (S) lattice placement: cosine at blade 0 or 2, sine at blade 1 or 3, remainder of value 0; magnitudes in `[0, 1]` -/
theorem cos_sin_lattice {a : Angle F} (ha : a.Inv) :
    ((Geonum.cos a).angle.blade = 0 ∨ (Geonum.cos a).angle.blade = 2) ∧ val (Geonum.cos a).angle.rem = 0 ∧
    ((Geonum.sin a).angle.blade = 1 ∨ (Geonum.sin a).angle.blade = 3) ∧ val (Geonum.sin a).angle.rem = 0 ∧
    0 ≤ val (Geonum.cos a).mag ∧ val (Geonum.cos a).mag ≤ 1 ∧ 0 ≤ val (Geonum.sin a).mag ∧ val (Geonum.sin a).mag ≤ 1 := by
  have hg := gradeAngle_fin ha
  obtain ⟨hfc, hc1, _⟩ := cos_spec hg
  obtain ⟨hfs, hs1, _⟩ := sin_spec hg
  obtain ⟨hinv0, hv0, hb0⟩ := Geonum.base_zero_one (F := F)
  obtain ⟨_, hcr, hcb⟩ := Geonum.signedAt_lattice (FloatLike.cos a.gradeAngle) hinv0 hv0
  obtain ⟨hinv1, hv1, hb1⟩ := Geonum.base_one_two (F := F)
  obtain ⟨_, hsr, hsb⟩ := Geonum.signedAt_lattice (FloatLike.sin a.gradeAngle) hinv1 hv1
  rw [hb0] at hcb; rw [hb1] at hsb
  refine ⟨hcb, hcr, hsb, hsr, ?_, ?_, ?_, ?_⟩
  · show 0 ≤ val (fabs _); rw [(fabs_spec hfc).2]; exact abs_nonneg _
  · show val (fabs _) ≤ 1; rw [(fabs_spec hfc).2]; exact hc1
  · show 0 ≤ val (fabs _); rw [(fabs_spec hfs).2]; exact abs_nonneg _
  · show val (fabs _) ≤ 1; rw [(fabs_spec hfs).2]; exact hs1

end S

/-! ### B-tier: the gateway magnitudes in ROUNDED arithmetic, angle in true radians -/
section B
variable {F : Type} [FloatSpec F]

/-- (B) the cosine / sine gateways return `|cos T|` / `|sin T|` of the true total angle to within `6e-15`
    (rounding of `grade_angle`, the `π_f ≠ π` offset of up to three quarter turns, and the libm error) -/
theorem cos_sin_mag_float {a : Angle F} (ha : a.Inv) :
    abs (val (Geonum.cos a).mag - abs (Real.cos (Angle.Tpi a))) ≤ 6 / 10 ^ 15 ∧
    abs (val (Geonum.sin a).mag - abs (Real.sin (Angle.Tpi a))) ≤ 6 / 10 ^ 15 := by
  obtain ⟨⟨hfc, hc1, hc⟩, ⟨hfs, hs1, hs⟩⟩ := trig_float ha
  exact ⟨(fabs_unit_close hfc hc1 hc).2.2, (fabs_unit_close hfs hs1 hs).2.2⟩

/-- (B) **`cos² + sin² = 1` for the two gateways in rounded arithmetic**, within `3e-14` -/
theorem cos_sin_pythagoras_float {a : Angle F} (ha : a.Inv) :
    |val (Geonum.cos a).mag * val (Geonum.cos a).mag + val (Geonum.sin a).mag * val (Geonum.sin a).mag - 1| ≤ 3 / 10 ^ 14 := by
  obtain ⟨hc, hs⟩ := cos_sin_mag_float ha
  have h := lagrange_err_real (M := 1) (c := |Real.cos (Angle.Tpi a)|) (s := |Real.sin (Angle.Tpi a)|) zero_le_one
    (by norm_num : (0:ℝ) ≤ 6 / 10 ^ 15) (by rw [sq_abs, sq_abs]; exact Real.cos_sq_add_sin_sq _)
    (by rw [abs_abs]; exact Real.abs_cos_le_one _) (by rw [abs_abs]; exact Real.abs_sin_le_one _)
    (by rw [one_mul]; exact hc) (by rw [one_mul]; exact hs)
  rw [← sq, ← sq]
  exact le_trans (by simpa using h) (by norm_num)

/-- (B) **`adj` and `opp` in rounded arithmetic**: their magnitudes are `|g|·|cos T|` and `|g|·|sin T|` (true total `T`) to within
    `|g|·(6e-15 + 2⁻⁵³) + 1e-30` — the unsigned Cartesian components; the sign sits in the angle exactly as for `cos` / `sin`
    (`cos_sin_structure`, `cos_sin_lattice`), because scaling by a non-negative magnitude adds no blade (`C05.scale` sign law) -/
theorem adj_opp_mag_float {g : Geonum F} (hg : g.angle.Inv) (hm : g.MagDom) :
    abs (val g.adj.mag - val g.mag * abs (Real.cos (Angle.Tpi g.angle))) ≤ val g.mag * (6 / 10 ^ 15 + 1 / 2 ^ 53) + 1 / 10 ^ 30 ∧
    abs (val g.opp.mag - val g.mag * abs (Real.sin (Angle.Tpi g.angle))) ≤ val g.mag * (6 / 10 ^ 15 + 1 / 2 ^ 53) + 1 / 10 ^ 30 := by
  obtain ⟨hmf, hm0, _⟩ := hm
  obtain ⟨⟨hfc, hc1, hc⟩, ⟨hfs, hs1, hs⟩⟩ := trig_float hg
  obtain ⟨hfca, c1, hca⟩ := fabs_unit_close hfc hc1 hc
  obtain ⟨hfsa, s1, hsa⟩ := fabs_unit_close hfs hs1 hs
  obtain ⟨hfma, hvma⟩ := fabs_spec hmf
  rw [abs_of_nonneg hm0] at hvma
  -- `scale` multiplies the gateway's magnitude by `|g.mag|`, in that order
  have hadj : g.adj.mag = fmul (fabs (FloatLike.cos g.angle.gradeAngle)) (fabs g.mag) := rfl
  have hopp : g.opp.mag = fmul (fabs (FloatLike.sin g.angle.gradeAngle)) (fabs g.mag) := rfl
  have h1 := (mul_unit_float hfma (by rw [hvma]; exact hm0) hfca c1 hca).2
  have h2 := (mul_unit_float hfma (by rw [hvma]; exact hm0) hfsa s1 hsa).2
  rw [hvma] at h1 h2
  rw [hadj, hopp, fmul_comm hfca hfma, fmul_comm hfsa hfma]
  exact ⟨h1, h2⟩

end B

/-! ### E-tier: exact arithmetic -/
section E
open GeonumModel.Exact

/-- (E) the magnitudes are `|cos T|` and `|sin T|` of the total angle, so `cos² + sin² = 1` exactly -/
theorem cos_sin_values_real (a : Angle ℝ) :
    (Geonum.cos a).mag = |Real.cos (T a)| ∧ (Geonum.sin a).mag = |Real.sin (T a)| ∧
    (Geonum.cos a).mag ^ 2 + (Geonum.sin a).mag ^ 2 = 1 := by
  have hc : (Geonum.cos a).mag = |Real.cos (T a)| := by rw [← cos_gradeAngle]; rfl
  have hs : (Geonum.sin a).mag = |Real.sin (T a)| := by rw [← sin_gradeAngle]; rfl
  refine ⟨hc, hs, ?_⟩
  rw [hc, hs, sq_abs, sq_abs]
  exact Real.cos_sq_add_sin_sq _

/-- (E) `tan` is total wherever the cosine is non-zero, has magnitude `|tan T|`, odd grade, and remainder 0 -/
theorem tan_real {a : Angle ℝ} (ha : a.Inv) (hc : Real.cos (T a) ≠ 0) :
    ∃ t, Geonum.tan a = some t ∧ t.mag = |Real.tan (T a)| ∧ t.angle.blade % 2 = 1 ∧ t.angle.rem = 0 := by
  obtain ⟨hcm, hsm, _⟩ := cos_sin_values_real a
  obtain ⟨hcb, hcr, hsb, hsr, _⟩ := cos_sin_lattice (F := ℝ) ha
  simp only [val_id] at hcr hsr
  have hcinv : (Geonum.cos a).angle.Inv := inv_of_val_zero (F := ℝ) trivial hcr
  have hsinv : (Geonum.sin a).angle.Inv := inv_of_val_zero (F := ℝ) trivial hsr
  have hne : feq (Geonum.cos a).mag (zero : ℝ) = false := by
    rw [r_eq, zero_real, hcm]; simpa using hc
  have hn := negate_spec hcinv
  simp only [val_id] at hn
  have hw := add_whole (F := ℝ) (a := (Geonum.sin a).angle) (z := (Geonum.cos a).angle.negate) hsinv trivial
    (by rw [val_id, hn.2.2, hcr])
  simp only [val_id] at hw
  refine ⟨⟨fmul (Geonum.sin a).mag (fdiv one (Geonum.cos a).mag), (Geonum.sin a).angle.geometricAdd (Geonum.cos a).angle.negate⟩, ?_, ?_, ?_, ?_⟩
  · show (Geonum.cos a).inv.map _ = _
    unfold Geonum.inv; simp [hne, Geonum.mul, Angle.add, Angle.addVV]
  · show (Geonum.sin a).mag * ((one : ℝ) / (Geonum.cos a).mag) = _
    rw [hsm, hcm, one_real, Real.tan_eq_sin_div_cos, abs_div]; ring
  · show ((Geonum.sin a).angle.geometricAdd (Geonum.cos a).angle.negate).blade % 2 = 1
    rw [hw.1, hn.1]; rcases hsb with h | h <;> rcases hcb with g | g <;> rw [h, g]
  · show ((Geonum.sin a).angle.geometricAdd (Geonum.cos a).angle.negate).rem = 0
    rw [hw.2.2, hsr]

/-- (E) `tan` has period π: a half turn more gives the same magnitude -/
theorem tan_period_real {a : Angle ℝ} (ha : a.Inv) (hc : Real.cos (T a) ≠ 0) :
    ∃ t t', Geonum.tan a = some t ∧ Geonum.tan a.negate = some t' ∧ t'.mag = t.mag := by
  have hT : T a.negate = T a + Real.pi := negate_total_real ha
  have hc' : Real.cos (T a.negate) ≠ 0 := by rw [hT, Real.cos_add_pi]; simpa using hc
  obtain ⟨t, ht, hm, _, _⟩ := tan_real ha hc
  obtain ⟨t', ht', hm', _, _⟩ := tan_real (negate_inv ha) hc'
  exact ⟨t, t', ht, ht', by rw [hm', hm, hT, Real.tan_add_pi]⟩

/-- (E) `adj` and `opp` scale cosine and sine by the magnitude: `|adj| = |g||cos T|`, `|opp| = |g||sin T|`, so
    `adj² + opp² = |g|²`; for a non-negative magnitude they stay on the cosine's / sine's lattice point (blade 0/2, resp. 1/3),
    i.e. their signed values are the Cartesian components `|g|cos T`, `|g|sin T` -/
theorem adj_opp_real {g : Geonum ℝ} (hg : g.angle.Inv) (h0 : 0 ≤ g.mag) :
    g.adj.mag = g.mag * |Real.cos (T g.angle)| ∧ g.opp.mag = g.mag * |Real.sin (T g.angle)| ∧
    g.adj.mag ^ 2 + g.opp.mag ^ 2 = g.mag ^ 2 ∧
    g.adj.angle.blade = (Geonum.cos g.angle).angle.blade ∧ g.opp.angle.blade = (Geonum.sin g.angle).angle.blade := by
  obtain ⟨hcm, hsm, hpy⟩ := cos_sin_values_real g.angle
  obtain ⟨hcb, hcr, hsb, hsr, _⟩ := cos_sin_lattice (F := ℝ) hg
  simp only [val_id] at hcr hsr
  have sc := C05.scale_spec (F := ℝ) (g := Geonum.cos g.angle) (f := g.mag) trivial trivial (inv_of_val_zero (F := ℝ) trivial hcr) trivial
  have ss := C05.scale_spec (F := ℝ) (g := Geonum.sin g.angle) (f := g.mag) trivial trivial (inv_of_val_zero (F := ℝ) trivial hsr) trivial
  simp only [val_id] at sc ss
  have ha : g.adj.mag = g.mag * |Real.cos (T g.angle)| := by
    show ((Geonum.cos g.angle).scale g.mag).mag = _
    rw [sc.1, hcm, abs_of_nonneg h0]; show |Real.cos (T g.angle)| * g.mag = _; ring
  have ho : g.opp.mag = g.mag * |Real.sin (T g.angle)| := by
    show ((Geonum.sin g.angle).scale g.mag).mag = _
    rw [ss.1, hsm, abs_of_nonneg h0]; show |Real.sin (T g.angle)| * g.mag = _; ring
  refine ⟨ha, ho, ?_, sc.2.1 h0, ss.2.1 h0⟩
  rw [ha, ho, mul_pow, mul_pow, sq_abs, sq_abs]
  linear_combination g.mag ^ 2 * Real.cos_sq_add_sin_sq (T g.angle)

end E

/-! Every clause of C15 has a theorem in exact arithmetic, the magnitudes of `cos`/`sin`/`adj`/`opp` also in rounded arithmetic; `tan` in
    rounded arithmetic is explored by `oracle.C15.trig`. -/

example {F : Type} [FloatSpec F] : (⟨zero, 7⟩ : Angle F).Inv := inv_zero 7

/-! ### R — on the arithmetic that really rounds (`R64`) -/
section R

/-- (R) `adj`/`opp` magnitudes for every binary64 number in the domain -/
theorem adj_opp_mag_rounded {g : Geonum R64} (hg : g.angle.Inv) (hm : g.MagDom) :
    abs (g.adj.mag.v - g.mag.v * abs (Real.cos (Angle.Tpi g.angle))) ≤ g.mag.v * (6 / 10 ^ 15 + 1 / 2 ^ 53) + 1 / 10 ^ 30 ∧
    abs (g.opp.mag.v - g.mag.v * abs (Real.sin (Angle.Tpi g.angle))) ≤ g.mag.v * (6 / 10 ^ 15 + 1 / 2 ^ 53) + 1 / 10 ^ 30 :=
  adj_opp_mag_float (F := R64) hg hm

end R

end GeonumModel.C15
