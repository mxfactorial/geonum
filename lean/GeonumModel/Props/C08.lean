/-
  C08 — Dimension-freedom: measurements depend on blade counts only modulo 4.

  Almost everything here is G-tier: it holds for EVERY arithmetic, so on the machine the shifted and unshifted
  measurements are the same bits, for every shift `n` whatsoever (no bound).
-/
import GeonumModel.Model.Collection
import GeonumModel.Spec.RoundWitness
import GeonumModel.Lemmas.ExactAdd
import GeonumModel.Lemmas.FloatMetric
import GeonumModel.Lemmas.FloatSumSpecial

namespace GeonumModel.C08
open GeonumModel FloatLike Angle

section G
variable {F : Type} [FloatLike F]

/-- (G) the angle difference: remainder and grade are untouched by adding `4n`, `4m` quarter turns to the operands -/
theorem sub_shift (a b : Angle F) (n m : Nat) :
    ((a.shift4 n).geometricSub (b.shift4 m)).rem = (a.geometricSub b).rem ∧
    ((a.shift4 n).geometricSub (b.shift4 m)).grade = (a.geometricSub b).grade ∧
    ((a.shift4 n).sub (b.shift4 m)).gradeAngle = (a.sub b).gradeAngle :=
  ⟨(geometricSub_shift4 a b n m).1, (geometricSub_shift4 a b n m).2, sub_gradeAngle_shift4 a b n m⟩

/-- (G) dot product: identical structure (magnitude bits, sign-carrying angle) under any whole-turn shifts -/
theorem dot_shift (a b : Geonum F) (n m : Nat) : (a.shift4 n).dot (b.shift4 m) = a.dot b := by
  unfold Geonum.dot Geonum.shift4
  simp only [sub_gradeAngle_shift4]

/-- (G) orthogonality test unchanged -/
theorem isOrthogonal_shift (a b : Geonum F) (n m : Nat) :
    (a.shift4 n).isOrthogonal (b.shift4 m) = a.isOrthogonal b := by
  unfold Geonum.isOrthogonal; rw [dot_shift]

/-- (G) distance unchanged (same structure) -/
theorem distanceTo_shift (a b : Geonum F) (n m : Nat) : (a.shift4 n).distanceTo (b.shift4 m) = a.distanceTo b := by
  unfold Geonum.distanceTo Geonum.shift4
  simp only [sub_gradeAngle_shift4]

/-- (G) angle-onto-angle projection unchanged -/
theorem angle_project_shift (a onto : Angle F) (n m : Nat) : (a.shift4 n).project (onto.shift4 m) = a.project onto :=
  project_shift4 a onto n m

/-- (G) the trigonometric gateways see only the grade angle -/
theorem cos_sin_shift (a : Angle F) (n : Nat) :
    Geonum.cos (a.shift4 n) = Geonum.cos a ∧ Geonum.sin (a.shift4 n) = Geonum.sin a := by
  unfold Geonum.cos Geonum.sin; simp only [gradeAngle_shift4, and_self]

/-- (G) wedge: same magnitude; the result angle shifts by exactly the operands' shifts, grade and remainder preserved -/
theorem wedge_shift (a b : Geonum F) (n m : Nat) :
    (a.shift4 n).wedge (b.shift4 m) = (a.wedge b).shift4 (n + m) := by
  unfold Geonum.wedge Geonum.shift4
  simp only [sub_gradeAngle_shift4, Angle.add, addVV]
  have h1 : (a.angle.shift4 n).geometricAdd (b.angle.shift4 m) = (a.angle.geometricAdd b.angle).shift (4 * n + 4 * m) :=
    geometricAdd_shift a.angle b.angle (4 * n) (4 * m)
  rw [h1, shift_geometricAdd]
  split
  · rw [shift_geometricAdd]; simp [shift, shift4]; omega
  · simp [shift, shift4]; omega

/-- (G) projection onto a number: same magnitude, result angle shifts with the target only -/
theorem project_shift (a b : Geonum F) (n m : Nat) (hb : flt (fabs b.mag) e10 = false) :
    (a.shift4 n).project (b.shift4 m) = (a.project b).shift4 m := by
  unfold Geonum.project Geonum.shift4
  simp only [hb, Bool.false_eq_true, if_false, project_shift4, Geonum.newWithAngle]
  split
  · rfl
  · simp only [Angle.add, addVV, shift4_eq_shift, shift_geometricAdd]

/-- (G) cone membership unchanged, hence cone selection selects the same positions -/
theorem inCone_shift (dir g : Geonum F) (h : F) (n m : Nat) :
    GeoCollection.inCone (dir.shift4 m) h (g.shift4 n) = GeoCollection.inCone dir h g := by
  unfold GeoCollection.inCone
  have : (g.shift4 n).dot (dir.shift4 m) = g.dot dir := dot_shift g dir n m
  simp only [this]
  rfl

/-- (G) dual: same magnitude, the result angle shifts with the operand -/
theorem dual_shift (g : Geonum F) (n : Nat) : (g.shift4 n).dual = g.dual.shift4 n := by
  unfold Geonum.dual Geonum.shift4 Geonum.newWithAngle Angle.dual
  simp only [Angle.add, addVV, shift4_eq_shift, shift_geometricAdd]

/-- (G) meet: same magnitude, angle shifted by the operands' shifts -/
theorem meet_shift (a b : Geonum F) (n m : Nat) :
    (a.shift4 n).meet (b.shift4 m) = (a.meet b).shift4 (n + m) := by
  unfold Geonum.meet
  rw [dual_shift, dual_shift, wedge_shift, dual_shift]

end G

section S
variable {F : Type} [FloatSpec F]
open FloatSpec

/-- (S) projection onto the k-th dimension equals projection onto the (k+4n)-th — same value of `F` -/
theorem projectToDimension_shift (g : Geonum F) (k n : Nat) (hk : k + 4 * n < 2 ^ 53) :
    g.projectToDimension (k + 4 * n) = g.projectToDimension k := by
  unfold Geonum.projectToDimension
  rw [newWithBlade_zero (k + 4 * n) hk, newWithBlade_zero k (by omega)]
  have : (⟨zero, k + 4 * n⟩ : Angle F) = (⟨zero, k⟩ : Angle F).shift4 n := rfl
  rw [this]
  have h := project_shift4 g.angle (⟨zero, k⟩ : Angle F) 0 n
  have e : g.angle.shift4 0 = g.angle := by simp [shift4]
  rw [e] at h; rw [h]

end S

/-! ### E-tier: the Cartesian value of sums under whole-turn shifts -/
section E
open GeonumModel.Exact FloatSpec

theorem cart_shift4 (g : Geonum ℝ) (n : ℕ) : cart (g.shift4 n) = cart g := by
  show polar g.mag (T (g.angle.shift4 n)) = polar g.mag (T g.angle)
  have : T (g.angle.shift4 n) = T g.angle + ((n : ℤ) : ℝ) * (2 * Real.pi) := by
    unfold T Angle.shift4; push_cast; ring
  rw [this, polar_add_turns]

/-- (E) adding whole turns to either or both summands changes the Cartesian value of the sum by at most twice the addition
    tolerance (in exact arithmetic; the float code re-encodes through `blade_sum·π/2`, whose ulp grows with the shift — that
    tolerance is what `oracle.C08.shift` uses) -/
theorem sum_shift_cartesian {a b : Geonum ℝ} (n m : ℕ) (ha : a.angle.Inv) (hb : b.angle.Inv) (h0a : 0 ≤ a.mag) (h0b : 0 ≤ b.mag)
    (hcb : (a.angle.blade + 4 * n) + (b.angle.blade + 4 * m) ≤ 2 ^ 40) :
    ‖cart ((a.shift4 n).add (b.shift4 m)) - cart (a.add b)‖ ≤ 2 * (1 / 10 ^ 10 * (1 + a.mag + b.mag)) := by
  have h1 := add_refines (a := a.shift4 n) (b := b.shift4 m) ha hb h0a h0b hcb
  rw [cart_shift4, cart_shift4] at h1
  exact (norm_sub_le_of_near h1 (add_refines ha hb h0a h0b (by omega))).trans (two_mul _).ge

end E

example : (⟨(1 : Nat), (⟨(0 : Nat), 3⟩ : Angle Nat)⟩ : Geonum Nat).mag = 1 := rfl

/-! ### B-tier: sums under whole turns, in rounded arithmetic -/
section B
variable {F : Type} [FloatSpec F]

/-- (B) **the Cartesian value of a sum is unchanged by whole turns on an operand, in rounded arithmetic** (general branch on both sides):
    adding `4n` quarter turns to the first summand moves the Cartesian components of `a + b` by at most twice the accuracy bound of
    `C06.sum_cartesian_float` at the larger blade count — while the result angles carry different blade histories -/
theorem sum_shift_cartesian_float {a b : Geonum F} (n : ℕ) (ha : a.angle.Inv) (hb : b.angle.Inv) (hma : a.MagDom) (hmb : b.MagDom)
    (hcb : a.angle.blade + 4 * n + b.angle.blade ≤ 2 ^ 39)
    (h1 : Geonum.sameAngle a b = false) (h2 : Geonum.oppositeAngle a b = false)
    (h1' : Geonum.sameAngle (a.shift4 n) b = false) (h2' : Geonum.oppositeAngle (a.shift4 n) b = false) :
    |val ((a.shift4 n).add b).mag * Real.cos (Angle.Tpi ((a.shift4 n).add b).angle) - val (a.add b).mag * Real.cos (Angle.Tpi (a.add b).angle)|
      ≤ 2 * ((val a.mag + val b.mag) * (2 / 10 ^ 7 + 11 / 10 * (val (e10 : F)
          + (40 * ((a.angle.blade + 4 * n + b.angle.blade : ℕ) : ℝ) + 170) * (1 / 2 ^ 53))) + 1 / 10 ^ 28) ∧
    |val ((a.shift4 n).add b).mag * Real.sin (Angle.Tpi ((a.shift4 n).add b).angle) - val (a.add b).mag * Real.sin (Angle.Tpi (a.add b).angle)|
      ≤ 2 * ((val a.mag + val b.mag) * (2 / 10 ^ 7 + 11 / 10 * (val (e10 : F)
          + (40 * ((a.angle.blade + 4 * n + b.angle.blade : ℕ) : ℝ) + 170) * (1 / 2 ^ 53))) + 1 / 10 ^ 28) :=
  Geonum.sum_shift_cartesian_float n ha hb hma hmb hcb h1 h2 h1' h2'

/-- (B) **dimension freedom of sums in rounded arithmetic, every branch**: whatever branches `+` takes before and after `4n` quarter turns
    are added to the first summand (the shift can move a pair out of the same-angle or opposite branch into the general one), the
    Cartesian components of the two sums differ by at most the two every-branch accuracy bounds -/
theorem sum_shift_every_branch_float {a b : Geonum F} (n : ℕ) (ha : a.angle.Inv) (hb : b.angle.Inv) (hma : a.MagDom) (hmb : b.MagDom)
    (hcb : a.angle.blade + 4 * n + b.angle.blade ≤ 2 ^ 39) :
    |val ((a.shift4 n).add b).mag * Real.cos (Angle.Tpi ((a.shift4 n).add b).angle) - val (a.add b).mag * Real.cos (Angle.Tpi (a.add b).angle)|
      ≤ 2 * ((val a.mag + val b.mag) * (2 / 10 ^ 7 + 11 / 10 * (val (e10 : F)
          + (40 * ((a.angle.blade + 4 * n + b.angle.blade : ℕ) : ℝ) + 170) * (1 / 2 ^ 53))) + 1 / 10 ^ 28 + 2 * val (e10 : F)) ∧
    |val ((a.shift4 n).add b).mag * Real.sin (Angle.Tpi ((a.shift4 n).add b).angle) - val (a.add b).mag * Real.sin (Angle.Tpi (a.add b).angle)|
      ≤ 2 * ((val a.mag + val b.mag) * (2 / 10 ^ 7 + 11 / 10 * (val (e10 : F)
          + (40 * ((a.angle.blade + 4 * n + b.angle.blade : ℕ) : ℝ) + 170) * (1 / 2 ^ 53))) + 1 / 10 ^ 28 + 2 * val (e10 : F)) := by
  have p := Geonum.sum_cartF_every_branch ha hb hma hmb (by omega)
  have q := Geonum.sum_cartF_every_branch (a := a.shift4 n) ha hb hma hmb hcb
  rw [Geonum.cartF_shift4] at q
  have hmono := Geonum.genTol_mono (F := F) (add_nonneg hma.2.1 hmb.2.1) le_rfl (Nat.cast_nonneg _)
    (Nat.cast_le.mpr (by omega : a.angle.blade + b.angle.blade ≤ a.angle.blade + 4 * n + b.angle.blade))
  exact prod_norm_le.mp (le_trans (norm_sub_le_of_near q (le_trans p (add_le_add_left hmono _))) (two_mul _).ge)

end B


/-! ### R — on the arithmetic that really rounds (`R64`) -/
section R

/-- (R) whole turns on a summand leave the sum's Cartesian components in place, for all pairs of binary64 numbers in the domain -/
theorem sum_shift_cartesian_rounded {a b : Geonum R64} (n : ℕ) (ha : a.angle.Inv) (hb : b.angle.Inv) (hma : a.MagDom) (hmb : b.MagDom)
    (hcb : a.angle.blade + 4 * n + b.angle.blade ≤ 2 ^ 39)
    (h1 : Geonum.sameAngle a b = false) (h2 : Geonum.oppositeAngle a b = false)
    (h1' : Geonum.sameAngle (a.shift4 n) b = false) (h2' : Geonum.oppositeAngle (a.shift4 n) b = false) :
    |((a.shift4 n).add b).mag.v * Real.cos (Angle.Tpi ((a.shift4 n).add b).angle) - (a.add b).mag.v * Real.cos (Angle.Tpi (a.add b).angle)|
      ≤ 2 * ((a.mag.v + b.mag.v) * (2 / 10 ^ 7 + 11 / 10 * ((e10 : R64).v
          + (40 * ((a.angle.blade + 4 * n + b.angle.blade : ℕ) : ℝ) + 170) * (1 / 2 ^ 53))) + 1 / 10 ^ 28) ∧
    |((a.shift4 n).add b).mag.v * Real.sin (Angle.Tpi ((a.shift4 n).add b).angle) - (a.add b).mag.v * Real.sin (Angle.Tpi (a.add b).angle)|
      ≤ 2 * ((a.mag.v + b.mag.v) * (2 / 10 ^ 7 + 11 / 10 * ((e10 : R64).v
          + (40 * ((a.angle.blade + 4 * n + b.angle.blade : ℕ) : ℝ) + 170) * (1 / 2 ^ 53))) + 1 / 10 ^ 28) :=
  sum_shift_cartesian_float (F := R64) n ha hb hma hmb hcb h1 h2 h1' h2'

end R

end GeonumModel.C08
