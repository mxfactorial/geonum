/-
  C10 — Wedge is the oriented area; geo = dot + wedge; meet = dual wedge dual.
-/
import GeonumModel.Spec.RoundWitness
import GeonumModel.Lemmas.Exact
import GeonumModel.Lemmas.FloatTrig

namespace GeonumModel.C10
open GeonumModel FloatLike FloatSpec Angle

section G
variable {F : Type} [FloatLike F]

/-- (G) the geometric product is exactly the sum of dot and wedge; meet is exactly the dual of the wedge of the duals -/
theorem geo_meet_def (a b : Geonum F) :
    a.geo b = (a.dot b).add (a.wedge b) ∧ a.meet b = (a.dual.wedge b.dual).dual := ⟨rfl, rfl⟩

/-- (G) wedge: magnitude `(|a|·|b|)·|sin(grade_angle(tb − ta))|`; angle `ta + tb + π/2`, plus a half turn exactly when
    the computed sine tests negative -/
theorem wedge_structure (a b : Geonum F) :
    let s := FloatLike.sin (b.angle.sub a.angle).gradeAngle
    (a.wedge b).mag = fmul (fmul a.mag b.mag) (fabs s) ∧
    (flt s zero = false → (a.wedge b).angle = (a.angle.geometricAdd b.angle).geometricAdd (Angle.new one two)) ∧
    (flt s zero = true → (a.wedge b).angle =
        ((a.angle.geometricAdd b.angle).geometricAdd (Angle.new one two)).geometricAdd (Angle.new one one)) := by
  intro s
  refine ⟨rfl, ?_, ?_⟩ <;> intro h <;> simp only [Geonum.wedge] <;> simp only [s] at h <;> simp [h, Angle.add, addVV]
end G

section S
variable {F : Type} [FloatSpec F]

/-- (S) wedge magnitude is finite-non-negative: `rnd(rnd(|a||b|)·|sin|) ≥ 0` and bounded by the rounded product of magnitudes -/
theorem wedge_mag_bounds {a b : Geonum F} (ha : Fin a.mag) (hb : Fin b.mag) (h0a : 0 ≤ val a.mag) (h0b : 0 ≤ val b.mag)
    (hg : Fin (b.angle.sub a.angle).gradeAngle) (hr : InRange (F := F) (val a.mag * val b.mag)) :
    0 ≤ val (a.wedge b).mag ∧ val (a.wedge b).mag ≤ rnd (F := F) (val a.mag * val b.mag) := by
  obtain ⟨hfp, hvp⟩ := fmul_spec ha hb hr
  obtain ⟨hfs, hs1, _⟩ := sin_spec hg
  obtain ⟨hfa, hva⟩ := fabs_spec hfs
  obtain ⟨_, h0, h1⟩ := fmul_unit_nonneg hfp hfa (by rw [hvp]; exact rnd_nonneg (mul_nonneg h0a h0b))
    (by rw [hva]; exact abs_nonneg _) (by rw [hva]; exact hs1)
  exact ⟨h0, by rw [← hvp]; exact h1⟩

/-- (S) the wedge angle is canonical; its blade count is that of `ta + tb` plus one, plus two exactly when the computed sine tests
    negative -/
theorem wedge_blade {a b : Geonum F} (ha : a.angle.Inv) (hb : b.angle.Inv) :
    (a.wedge b).angle.Inv ∧ (a.wedge b).angle.blade = (a.angle.geometricAdd b.angle).blade + 1
      + (if flt (FloatLike.sin (b.angle.sub a.angle).gradeAngle) (zero : F) = true then 2 else 0) := by
  have hi := geometricAdd_inv ha hb
  obtain ⟨_, ws0, ws1⟩ := wedge_structure a b
  rw [new_one_two] at ws0 ws1
  have hq := add_whole (z := (⟨zero, 1⟩ : Angle F)) hi fin_zero val_zero
  have hqi := inv_of_spec hi hq.2
  by_cases h : flt (FloatLike.sin (b.angle.sub a.angle).gradeAngle) (zero : F) = true
  · have hp := add_equiv_whole hqi (new_one_one (F := F))
    rw [ws1 h, if_pos h, hp.1, hq.1]
    exact ⟨inv_of_spec hqi hp.2, rfl⟩
  · rw [ws0 (by simpa using h), if_neg h, hq.1]
    exact ⟨hqi, rfl⟩

/-- (S) so the blade count is `ba + bb + 1` (+2 for negative orientation) plus at most one carry -/
theorem wedge_angle {a b : Geonum F} (ha : a.angle.Inv) (hb : b.angle.Inv) :
    (a.wedge b).angle.Inv ∧ a.angle.blade + b.angle.blade + 1 ≤ (a.wedge b).angle.blade ∧
      (a.wedge b).angle.blade ≤ a.angle.blade + b.angle.blade + 4 := by
  obtain ⟨hinv, hbl⟩ := wedge_blade ha hb
  refine ⟨hinv, ?_, ?_⟩ <;> rw [hbl] <;> rcases geometricAdd_blade ha hb with h | h <;> rw [h] <;> split <;> omega

end S

/-! ### B-tier: the magnitude in ROUNDED arithmetic, angles in true radians -/
section B
variable {F : Type} [FloatSpec F]

/-- (B) **the computed wedge magnitude is `|a||b|·|sin(T b − T a)|` to within `|a||b|·(1e-10 + 1e-14)`** (plus `1e-29`), for
    in-domain magnitudes and canonical angles of any blade count -/
theorem wedge_mag_float {a b : Geonum F} (ha : a.angle.Inv) (hb : b.angle.Inv) (hma : a.MagDom) (hmb : b.MagDom) :
    abs (val (fmul (fmul a.mag b.mag) (fabs (FloatLike.sin (b.angle.geometricSub a.angle).gradeAngle)))
        - val a.mag * val b.mag * abs (Real.sin (Angle.Tpi b.angle - Angle.Tpi a.angle)))
      ≤ val a.mag * val b.mag * (val (e10 : F) + 1 / 10 ^ 14) + 1 / 10 ^ 29 := by
  obtain ⟨hfs, hs1, _⟩ := sin_spec (gradeAngle_fin (geometricSub_inv hb ha))
  obtain ⟨hfa, ha1, hcl⟩ := fabs_unit_close hfs hs1 (cos_sub_float ha hb).2
  exact Geonum.mul_mul_unit_snap hma hmb hfa ha1 (by rw [abs_abs]; exact Real.abs_sin_le_one _) hcl

/-- (S/B) **the angle of the wedge in rounded arithmetic**: its float total is `T a + T b + π_f/2`, plus a half turn exactly when the
    computed sine tests negative, up to one snap and one rounding (the whole-blade additions are exact) — for every blade history -/
theorem wedge_total_float {a b : Geonum F} (ha : a.angle.Inv) (hb : b.angle.Inv) :
    ∃ δ : ℝ, |δ| < val (e10 : F) + 1 / 10 ^ 15 ∧
      Angle.Tq (a.wedge b).angle = Angle.Tq a.angle + Angle.Tq b.angle + δ + val (qp : F)
        + (if flt (FloatLike.sin (b.angle.sub a.angle).gradeAngle) (zero : F) then 2 * val (qp : F) else 0) :=
  Geonum.wedge_total_float ha hb

/-- (B) **anticommutation, magnitude part, in rounded arithmetic**: `a ∧ b` and `b ∧ a` have the same magnitude within twice the
    `wedge_mag_float` bound (`|sin(T b − T a)| = |sin(T a − T b)|`; the two computed sines come from different float arguments) -/
theorem wedge_mag_symm_float {a b : Geonum F} (ha : a.angle.Inv) (hb : b.angle.Inv) (hma : a.MagDom) (hmb : b.MagDom) :
    |val (a.wedge b).mag - val (b.wedge a).mag| ≤ 2 * (val a.mag * val b.mag * (val (e10 : F) + 1 / 10 ^ 14) + 1 / 10 ^ 29) := by
  have h2 := wedge_mag_float hb ha hmb hma
  rw [← neg_sub (Angle.Tpi b.angle), Real.sin_neg, abs_neg, mul_comm (val b.mag)] at h2
  exact abs_sub_le_two (wedge_mag_float ha hb hma hmb) h2

/-- (B) **the Lagrange identity in rounded arithmetic**: with `D` the computed dot value and `W` the computed wedge magnitude,
    `D² + W² = (|a||b|)²` to within `2η(2|a||b| + η)`, `η = |a||b|·(1e-10 + 1e-14) + 1e-29` — i.e. about `4e-10` relative -/
theorem lagrange_float {a b : Geonum F} (ha : a.angle.Inv) (hb : b.angle.Inv) (hma : a.MagDom) (hmb : b.MagDom) :
    |(val (fmul (fmul a.mag b.mag) (FloatLike.cos (b.angle.geometricSub a.angle).gradeAngle))) ^ 2
      + (val (fmul (fmul a.mag b.mag) (fabs (FloatLike.sin (b.angle.geometricSub a.angle).gradeAngle)))) ^ 2
      - (val a.mag * val b.mag) ^ 2|
      ≤ 2 * (val a.mag * val b.mag * (val (e10 : F) + 1 / 10 ^ 14) + 1 / 10 ^ 29)
          * (2 * (val a.mag * val b.mag) + (val a.mag * val b.mag * (val (e10 : F) + 1 / 10 ^ 14) + 1 / 10 ^ 29)) := by
  have hD := Geonum.dot_value_float ha hb hma hmb
  have hW := wedge_mag_float ha hb hma hmb
  have hM : 0 ≤ val a.mag * val b.mag := mul_nonneg hma.2.1 hmb.2.1
  have he := val_e10_pos (F := F)
  exact lagrange_err_real hM (by positivity)
    (by rw [sq_abs]; exact Real.cos_sq_add_sin_sq _) (Real.abs_cos_le_one _) (by rw [abs_abs]; exact Real.abs_sin_le_one _) hD hW

end B

/-! ### E-tier: exact arithmetic -/
section E
open GeonumModel.Exact

/-- (E) wedge magnitude is `|a||b|·|sin(T b − T a + δ)|` with the same snap slack `δ` as the dot product; the dot magnitude is
    `|a||b|·|cos(T b − T a + δ)|`; hence **Lagrange's identity** `dot² + wedge² = (|a||b|)²` holds exactly -/
theorem wedge_dot_real {a b : Geonum ℝ} (ha : a.angle.Inv) (hb : b.angle.Inv) :
    ∃ δ : ℝ, |δ| < 1 / 10 ^ 10 + 1 / 10 ^ 15 ∧
      (a.wedge b).mag = a.mag * b.mag * |Real.sin (T b.angle - T a.angle + δ)| ∧
      (a.dot b).mag = |a.mag * b.mag * Real.cos (T b.angle - T a.angle + δ)| := by
  obtain ⟨δ, hδ, hcos, hsin⟩ := cos_sub_gradeAngle ha hb
  refine ⟨δ, hδ, ?_, ?_⟩
  · rw [← hsin]; rfl
  · rw [← hcos]; rfl

theorem lagrange_real {a b : Geonum ℝ} (ha : a.angle.Inv) (hb : b.angle.Inv) :
    (a.dot b).mag ^ 2 + (a.wedge b).mag ^ 2 = (a.mag * b.mag) ^ 2 := by
  obtain ⟨δ, _, hw, hd⟩ := wedge_dot_real ha hb
  rw [hw, hd, sq_abs, mul_pow, mul_pow _ (|Real.sin _|), sq_abs]
  linear_combination (a.mag * b.mag) ^ 2 * Real.cos_sq_add_sin_sq (T b.angle - T a.angle + δ)

/-- (E) so `|a ∧ b| = |a||b|·|sin(T b − T a)|` to within `|a||b|·(1e-10 + 1e-15)` -/
theorem wedge_mag_close {a b : Geonum ℝ} (ha : a.angle.Inv) (hb : b.angle.Inv) (h0a : 0 ≤ a.mag) (h0b : 0 ≤ b.mag) :
    abs ((a.wedge b).mag - a.mag * b.mag * abs (Real.sin (T b.angle - T a.angle))) ≤ a.mag * b.mag * (1 / 10 ^ 10 + 1 / 10 ^ 15) := by
  obtain ⟨δ, hδ, hw, _⟩ := wedge_dot_real ha hb
  rw [hw]
  exact abs_mul_sub_le (mul_nonneg h0a h0b) ((abs_abs_sub_abs_le_abs_sub _ _).trans ((sin_lipschitz _ _).trans hδ.le))

/-- (E) the wedge vanishes for parallel operands (same total, up to the snap slack it is below `|a||b|·(1e-10+1e-15)`) -/
theorem wedge_parallel_real {a b : Geonum ℝ} (ha : a.angle.Inv) (hb : b.angle.Inv) (h0a : 0 ≤ a.mag) (h0b : 0 ≤ b.mag)
    (hpar : T b.angle = T a.angle) : (a.wedge b).mag ≤ a.mag * b.mag * (1 / 10 ^ 10 + 1 / 10 ^ 15) := by
  have h := wedge_mag_close ha hb h0a h0b
  rw [hpar, sub_self, Real.sin_zero, abs_zero, mul_zero, sub_zero] at h
  exact (le_abs_self _).trans h

/-- (E) **anticommutation**: swapping the operands keeps the magnitude (to within two snap tolerances) and — when the operands are
    not within tolerance of parallel — turns the result by exactly two blades -/
theorem wedge_anticomm_real {a b : Geonum ℝ} (ha : a.angle.Inv) (hb : b.angle.Inv) (h0a : 0 ≤ a.mag) (h0b : 0 ≤ b.mag)
    (hsep : 1 / 10 ^ 10 + 1 / 10 ^ 15 < |Real.sin (T b.angle - T a.angle)|) :
    |(a.wedge b).mag - (b.wedge a).mag| ≤ 2 * (a.mag * b.mag * (1 / 10 ^ 10 + 1 / 10 ^ 15)) ∧
    ((a.wedge b).angle.blade = (b.wedge a).angle.blade + 2 ∨ (b.wedge a).angle.blade = (a.wedge b).angle.blade + 2) := by
  constructor
  · have h2 := wedge_mag_close hb ha h0b h0a
    rw [← neg_sub (T b.angle), Real.sin_neg, abs_neg, mul_comm b.mag] at h2
    exact abs_sub_le_two (wedge_mag_close ha hb h0a h0b) h2
  · -- the two computed sines are within the slack of `sin θ` and of `−sin θ`: their signs are strictly opposite
    obtain ⟨δ, hδ, _, hs⟩ := cos_sub_gradeAngle ha hb
    obtain ⟨δ', hδ', _, hs'⟩ := cos_sub_gradeAngle hb ha
    have hl := (sin_lipschitz (T b.angle - T a.angle) δ).trans_lt hδ
    have hl' := (sin_lipschitz (T a.angle - T b.angle) δ').trans_lt hδ'
    rw [show Real.sin (T a.angle - T b.angle) = -Real.sin (T b.angle - T a.angle) by rw [← Real.sin_neg, neg_sub],
      sub_neg_eq_add] at hl'
    have hs1 : FloatLike.sin (b.angle.sub a.angle).gradeAngle = Real.sin (T b.angle - T a.angle + δ) := hs
    have hs2 : FloatLike.sin (a.angle.sub b.angle).gradeAngle = Real.sin (T a.angle - T b.angle + δ') := hs'
    rw [(wedge_blade ha hb).2, (wedge_blade hb ha).2, geometricAdd_comm (F := ℝ) (a := b.angle) trivial trivial, hs1, hs2,
      r_lt, r_lt, zero_real]
    rcases opposite_signs hl hl' hsep with ⟨p, q⟩ | ⟨p, q⟩ <;> simp [p, q]

end E

/-! Every clause of C10 has a theorem; of anticommutation in rounded arithmetic the magnitude part is proved (`wedge_mag_symm_float`), the
    blade part is explored by `oracle.C10.wedge`. -/

example {F : Type} [FloatSpec F] : (⟨zero, 2⟩ : Angle F).Inv := inv_zero 2

/-! ### R — on the arithmetic that really rounds (`R64`) -/
section R

/-- (R) the Lagrange identity `dot² + wedge² = (|a||b|)²` up to the stated bound, for all pairs of binary64 numbers in the domain -/
theorem lagrange_rounded {a b : Geonum R64} (ha : a.angle.Inv) (hb : b.angle.Inv) (hma : a.MagDom) (hmb : b.MagDom) :
    |((fmul (fmul a.mag b.mag) (FloatLike.cos (b.angle.geometricSub a.angle).gradeAngle)).v) ^ 2
      + ((fmul (fmul a.mag b.mag) (fabs (FloatLike.sin (b.angle.geometricSub a.angle).gradeAngle))).v) ^ 2
      - (a.mag.v * b.mag.v) ^ 2|
      ≤ 2 * (a.mag.v * b.mag.v * ((e10 : R64).v + 1 / 10 ^ 14) + 1 / 10 ^ 29)
          * (2 * (a.mag.v * b.mag.v) + (a.mag.v * b.mag.v * ((e10 : R64).v + 1 / 10 ^ 14) + 1 / 10 ^ 29)) :=
  lagrange_float (F := R64) ha hb hma hmb

end R

end GeonumModel.C10
