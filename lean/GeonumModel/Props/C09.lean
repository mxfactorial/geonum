/-
  C09 — Dot product is the signed scalar |a||b|cos(delta), sign carried by the angle.
-/
import GeonumModel.Spec.RoundWitness
import GeonumModel.Lemmas.Exact
import GeonumModel.Lemmas.FloatMetric

namespace GeonumModel.C09
open GeonumModel FloatLike FloatSpec Angle

section G
variable {F : Type} [FloatLike F]

/-- (G) the dot product is `|value|` placed at the base angle `Angle::new(0,1)`, or at that plus `Angle::new(1,1)` exactly when
    the computed value tests negative; the value is `(|a|·|b|)·cos(grade_angle(tb − ta))` in that association -/
theorem dot_structure (a b : Geonum F) :
    let value := fmul (fmul a.mag b.mag) (FloatLike.cos (b.angle.sub a.angle).gradeAngle)
    (a.dot b).mag = fabs value ∧
    (flt value zero = false → (a.dot b).angle = Angle.new zero one) ∧
    (flt value zero = true → (a.dot b).angle = (Angle.new zero one).geometricAdd (Angle.new one one)) := by
  exact Geonum.signedAt_spec _ _

/-- (G) the orthogonality test is exactly "dot magnitude below 1e-10" -/
theorem isOrthogonal_iff (a b : Geonum F) : a.isOrthogonal b = flt (fabs (a.dot b).mag) e10 := rfl
end G

section S
variable {F : Type} [FloatSpec F]

/-- (S) the two possible angles are exactly 0 and π on the quarter-turn lattice: blade 0 or blade 2, remainder of value 0 -/
theorem dot_lattice (a b : Geonum F) :
    ((a.dot b).angle.blade = 0 ∨ (a.dot b).angle.blade = 2) ∧ val (a.dot b).angle.rem = 0 ∧ (a.dot b).angle.Inv := by
  obtain ⟨hinv0, hv0, hb0⟩ := Geonum.base_zero_one (F := F)
  obtain ⟨hi, hr, hbl⟩ := Geonum.signedAt_lattice (fmul (fmul a.mag b.mag) (FloatLike.cos (b.angle.sub a.angle).gradeAngle)) hinv0 hv0
  rw [hb0] at hbl
  exact ⟨hbl, hr, hi⟩

/-- (S) non-negative magnitude; bounded by the rounded product of the magnitudes (Cauchy–Schwarz in rounded arithmetic,
    from `|cos| ≤ 1` and monotone rounding) -/
theorem dot_bounds {a b : Geonum F} (ha : Fin a.mag) (hb : Fin b.mag) (h0a : 0 ≤ val a.mag) (h0b : 0 ≤ val b.mag)
    (hg : Fin (b.angle.sub a.angle).gradeAngle)
    (hr : InRange (F := F) (val a.mag * val b.mag)) :
    0 ≤ val (a.dot b).mag ∧ val (a.dot b).mag ≤ rnd (F := F) (val a.mag * val b.mag) := by
  obtain ⟨hfp, hvp⟩ := fmul_spec ha hb hr
  obtain ⟨hfc, hc1, _⟩ := cos_spec hg
  obtain ⟨hfv, -, hle⟩ := fmul_unit hfp hfc hc1
  have hmag : val (a.dot b).mag = |val (fmul (fmul a.mag b.mag) (FloatLike.cos (b.angle.sub a.angle).gradeAngle))| :=
    (fabs_spec hfv).2
  have hp0 : 0 ≤ val (fmul a.mag b.mag) := by rw [hvp]; exact rnd_nonneg (mul_nonneg h0a h0b)
  rw [abs_of_nonneg hp0, hvp] at hle
  rw [hmag]
  exact ⟨abs_nonneg _, hle⟩

end S

/-! ### B-tier: the value in ROUNDED arithmetic (binary64 under the FloatSpec contract), angles in true radians -/
section B
variable {F : Type} [FloatSpec F]

/-- (B) **the computed dot value is `|a||b|·cos(T b − T a)` to within `|a||b|·(1e-10 + 1e-14)`** (plus `1e-29` absolute for the
    subnormal range), where `T x = blade·π/2 + rem` with the true π: the `1e-10` is the library's boundary snap, the `1e-14`
    covers the roundings of the subtraction, of `grade_angle`, of the two products, and the libm error of `cos`.
    The returned Geonum carries `|value|` with the sign on the 0/π lattice (`dot_structure`, `dot_lattice`). -/
theorem dot_value_float {a b : Geonum F} (ha : a.angle.Inv) (hb : b.angle.Inv) (hma : a.MagDom) (hmb : b.MagDom) :
    |val (fmul (fmul a.mag b.mag) (FloatLike.cos (b.angle.geometricSub a.angle).gradeAngle))
        - val a.mag * val b.mag * Real.cos (Angle.Tpi b.angle - Angle.Tpi a.angle)|
      ≤ val a.mag * val b.mag * (val (e10 : F) + 1 / 10 ^ 14) + 1 / 10 ^ 29 :=
  Geonum.dot_value_float ha hb hma hmb

/-- (B) **`a·a = |a|²` in rounded arithmetic**: the signed value of a number dotted with itself is within `|a|²·(1e-10 + 1e-14) + 1e-29`
    of the squared magnitude -/
theorem dot_self_float {a : Geonum F} (ha : a.angle.Inv) (hma : a.MagDom) :
    |val (fmul (fmul a.mag a.mag) (FloatLike.cos (a.angle.geometricSub a.angle).gradeAngle)) - val a.mag * val a.mag|
      ≤ val a.mag * val a.mag * (val (e10 : F) + 1 / 10 ^ 14) + 1 / 10 ^ 29 := by
  have h := dot_value_float ha ha hma hma
  rw [sub_self, Real.cos_zero, mul_one] at h
  exact h

/-- (B) **Cauchy–Schwarz for the signed value, with the rounding slack**: `|a·b| ≤ |a||b|·(1 + 1e-10 + 1e-14) + 1e-29` -/
theorem dot_cauchy_schwarz_float {a b : Geonum F} (ha : a.angle.Inv) (hb : b.angle.Inv) (hma : a.MagDom) (hmb : b.MagDom) :
    |val (fmul (fmul a.mag b.mag) (FloatLike.cos (b.angle.geometricSub a.angle).gradeAngle))|
      ≤ val a.mag * val b.mag * (1 + (val (e10 : F) + 1 / 10 ^ 14)) + 1 / 10 ^ 29 := by
  have h := dot_value_float ha hb hma hmb
  have hc := abs_mul_unit_le (mul_nonneg hma.2.1 hmb.2.1) (Real.abs_cos_le_one (Angle.Tpi b.angle - Angle.Tpi a.angle))
  linarith only [h, hc, abs_sub_abs_le_abs_sub (val (fmul (fmul a.mag b.mag) (FloatLike.cos (b.angle.geometricSub a.angle).gradeAngle)))
    (val a.mag * val b.mag * Real.cos (Angle.Tpi b.angle - Angle.Tpi a.angle))]

/-- (B) **the dot value is symmetric in rounded arithmetic**: `a·b` and `b·a` (computed from the two opposite angle differences)
    agree to within twice the accuracy bound -/
theorem dot_symm_float {a b : Geonum F} (ha : a.angle.Inv) (hb : b.angle.Inv) (hma : a.MagDom) (hmb : b.MagDom) :
    |val (fmul (fmul a.mag b.mag) (FloatLike.cos (b.angle.geometricSub a.angle).gradeAngle))
      - val (fmul (fmul b.mag a.mag) (FloatLike.cos (a.angle.geometricSub b.angle).gradeAngle))|
      ≤ 2 * (val a.mag * val b.mag * (val (e10 : F) + 1 / 10 ^ 14) + 1 / 10 ^ 29) :=
  Geonum.dot_symm_float ha hb hma hmb

end B

/-! ### E-tier: exact arithmetic (`F = ℝ`) — what the dot product *means* -/
section E
open GeonumModel.Exact

/-- the signed scalar a lattice-encoded result stands for: `−mag` on blade 2, `mag` otherwise -/
noncomputable def signed (g : Geonum ℝ) : ℝ := if g.angle.blade = 2 then -g.mag else g.mag

/-- `signed` reads back the value that `signed_at` encoded at the base angle `Angle::new(0,1)` -/
theorem signed_signedAt (v : ℝ) : signed (Geonum.signedAt v (Angle.new zero one)) = v := by
  obtain ⟨hm, h0, h1⟩ := Geonum.signedAt_spec v (Angle.new (zero : ℝ) one)
  obtain ⟨hinv0, _, hb0⟩ := Geonum.base_zero_one (F := ℝ)
  unfold signed
  rw [hm, r_abs]
  by_cases hneg : v < 0
  · rw [h1 (by rw [r_lt, zero_real]; simpa using hneg), (add_equiv_whole hinv0 new_one_one).1, hb0, if_pos rfl,
      abs_of_neg hneg, neg_neg]
  · rw [h0 (by rw [r_lt, zero_real]; simpa using hneg), hb0, if_neg (by norm_num), abs_of_nonneg (not_lt.mp hneg)]

/-- (E) the dot product is the signed scalar `|a||b|·cos(T b − T a + δ)`, where the slack `δ` (below `1e-10 + 1e-15`) is non-zero
    only if the angle subtraction snapped; the sign is carried by the angle: blade 2 exactly when the value is negative -/
theorem dot_value_real {a b : Geonum ℝ} (ha : a.angle.Inv) (hb : b.angle.Inv) :
    ∃ δ : ℝ, |δ| < 1 / 10 ^ 10 + 1 / 10 ^ 15 ∧ signed (a.dot b) = a.mag * b.mag * Real.cos (T b.angle - T a.angle + δ) := by
  obtain ⟨δ, hδ, hcos, _⟩ := cos_sub_gradeAngle ha hb
  exact ⟨δ, hδ, hcos ▸ signed_signedAt _⟩

/-- (E) hence the value is `|a||b|·cos(T b − T a)` to within `|a||b|·(1e-10 + 1e-15)`, and it is symmetric to within twice that -/
theorem dot_value_close {a b : Geonum ℝ} (ha : a.angle.Inv) (hb : b.angle.Inv) (h0a : 0 ≤ a.mag) (h0b : 0 ≤ b.mag) :
    |signed (a.dot b) - a.mag * b.mag * Real.cos (T b.angle - T a.angle)| ≤ a.mag * b.mag * (1 / 10 ^ 10 + 1 / 10 ^ 15) := by
  obtain ⟨δ, hδ, hs⟩ := dot_value_real ha hb
  rw [hs]; exact abs_mul_sub_le (mul_nonneg h0a h0b) ((cos_lipschitz _ _).trans hδ.le)

theorem dot_symmetric_real {a b : Geonum ℝ} (ha : a.angle.Inv) (hb : b.angle.Inv) (h0a : 0 ≤ a.mag) (h0b : 0 ≤ b.mag) :
    |signed (a.dot b) - signed (b.dot a)| ≤ 2 * (a.mag * b.mag * (1 / 10 ^ 10 + 1 / 10 ^ 15)) := by
  have h2 := dot_value_close hb ha h0b h0a
  rw [← neg_sub (T b.angle), Real.cos_neg, mul_comm b.mag] at h2
  exact abs_sub_le_two (dot_value_close ha hb h0a h0b) h2

end E

/-! PARTIAL: `a·a = |a|²` is proved in rounded arithmetic (`dot_self_float`); it is not stated in exact arithmetic. -/

example {F : Type} [FloatSpec F] : (0 : ℝ) ≤ val (one : F) := by rw [val_one]; norm_num

/-! ### R — on the arithmetic that really rounds (`R64`) -/
section R

/-- (R) the dot product is symmetric up to the stated bound, for all pairs of binary64 numbers in the domain -/
theorem dot_symm_rounded {a b : Geonum R64} (ha : a.angle.Inv) (hb : b.angle.Inv) (hma : a.MagDom) (hmb : b.MagDom) :
    |(fmul (fmul a.mag b.mag) (FloatLike.cos (b.angle.geometricSub a.angle).gradeAngle)).v
      - (fmul (fmul b.mag a.mag) (FloatLike.cos (a.angle.geometricSub b.angle).gradeAngle)).v|
      ≤ 2 * (a.mag.v * b.mag.v * ((e10 : R64).v + 1 / 10 ^ 14) + 1 / 10 ^ 29) :=
  dot_symm_float (F := R64) ha hb hma hmb

end R

end GeonumModel.C09
