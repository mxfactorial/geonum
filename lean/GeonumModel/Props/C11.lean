/-
  C11 — Projection and rejection decompose a number orthogonally.
-/
import GeonumModel.Spec.RoundWitness
import GeonumModel.Lemmas.ExactAdd
import GeonumModel.Lemmas.FloatMetric
import GeonumModel.Lemmas.FloatSumSpecial

set_option linter.unusedVariables false

namespace GeonumModel.C11
open GeonumModel FloatLike FloatSpec Angle

section G
variable {F : Type} [FloatLike F]

/-- (G) the projection never reads the target's length beyond the `< 1e-10` test: two targets with the same angle that both
    pass the test give the identical result -/
theorem project_indep_of_length (a b b' : Geonum F) (hang : b.angle = b'.angle)
    (hb : flt (fabs b.mag) e10 = false) (hb' : flt (fabs b'.mag) e10 = false) :
    a.project b = a.project b' := by
  unfold Geonum.project
  simp only [hb, hb', hang]

/-- (G) structure of the projection (target not tiny): magnitude `|a|·|factor|` with `factor = cos(grade_angle(tb − ta))`,
    placed along the target's own angle, or that plus a half turn exactly when the factor tests negative -/
theorem project_structure (a b : Geonum F) (hb : flt (fabs b.mag) e10 = false) :
    let factor := a.angle.project b.angle
    (a.project b).mag = fmul a.mag (fabs factor) ∧
    (fge factor zero = true → (a.project b).angle = b.angle) ∧
    (fge factor zero = false → (a.project b).angle = b.angle.geometricAdd (Angle.new one one)) ∧
    factor = FloatLike.cos (b.angle.sub a.angle).gradeAngle := by
  intro factor
  refine ⟨?_, ?_, ?_, rfl⟩
  · simp only [Geonum.project, hb, Bool.false_eq_true, if_false, Geonum.newWithAngle]; rfl
  · intro h; simp only [Geonum.project, hb, Bool.false_eq_true, if_false, Geonum.newWithAngle]; simp only [factor] at h; simp [h]
  · intro h; simp only [Geonum.project, hb, Bool.false_eq_true, if_false, Geonum.newWithAngle]; simp only [factor] at h; simp [h, Angle.add, addVV]

/-- (G) tiny-axis band (`|b| < 1e-10`): total, returns magnitude zero at the receiver's blade -/
theorem project_tiny (a b : Geonum F) (hb : flt (fabs b.mag) e10 = true) :
    a.project b = ⟨zero, Angle.newWithBlade a.angle.blade zero one⟩ := by
  simp [Geonum.project, hb]

/-- (G) the rejection is exactly `a − proj`; angle-onto-angle projection is the cosine of the difference's grade angle;
    projection onto an angle lands on the base angles built by `Angle::new(0,1)` / `Angle::new(1,1)` -/
theorem reject_and_angle_forms (a b : Geonum F) (onto : Angle F) :
    a.reject b = a.sub (a.project b) ∧
    a.angle.project onto = FloatLike.cos (onto.sub a.angle).gradeAngle ∧
    ((a.projectToAngle onto).angle = Angle.new zero one ∨ (a.projectToAngle onto).angle = Angle.new one one) ∧
    a.projectToDimension 0 = fmul a.mag (a.angle.project (Angle.newWithBlade 0 zero one)) := by
  refine ⟨rfl, rfl, ?_, rfl⟩
  unfold Geonum.projectToAngle Geonum.newWithAngle
  simp only
  split <;> simp
end G

section S
variable {F : Type} [FloatSpec F]

/-- (S) the projection's magnitude is finite, non-negative and never exceeds `|a|` (monotone rounding, `|cos| ≤ 1`) -/
theorem project_mag_fin {a b : Geonum F} (ha : Fin a.mag) (h0a : 0 ≤ val a.mag)
    (hb : flt (fabs b.mag) e10 = false) (hg : Fin (b.angle.sub a.angle).gradeAngle) :
    Fin (a.project b).mag ∧ 0 ≤ val (a.project b).mag ∧ val (a.project b).mag ≤ val a.mag := by
  obtain ⟨hfc, hc1, _⟩ := cos_spec hg
  obtain ⟨hfa, hva⟩ := fabs_spec hfc
  rw [(project_structure a b hb).1]
  exact fmul_unit_nonneg ha hfa h0a (hva ▸ abs_nonneg _) (hva ▸ hc1)

theorem project_mag_bounds {a b : Geonum F} (ha : Fin a.mag) (h0a : 0 ≤ val a.mag)
    (hb : flt (fabs b.mag) e10 = false) (hg : Fin (b.angle.sub a.angle).gradeAngle) :
    0 ≤ val (a.project b).mag ∧ val (a.project b).mag ≤ val a.mag :=
  (project_mag_fin ha h0a hb hg).2

/-- (S) the projection's angle is canonical with the target's blade count or exactly two more -/
theorem project_angle {a b : Geonum F} (hb : flt (fabs b.mag) e10 = false) (hbi : b.angle.Inv) :
    (a.project b).angle.Inv ∧
    ((a.project b).angle.blade = b.angle.blade ∨ (a.project b).angle.blade = b.angle.blade + 2) ∧
    val (a.project b).angle.rem = val b.angle.rem := by
  have ps := project_structure a b hb
  simp only at ps
  by_cases h : fge (a.angle.project b.angle) (zero : F) = true
  · rw [ps.2.1 h]; exact ⟨hbi, Or.inl rfl, rfl⟩
  · rw [ps.2.2.1 (by simpa using h)]
    have n := negate_spec hbi
    unfold Angle.negate at n; simp only [Angle.add, addVV] at n
    exact ⟨inv_of_spec hbi n.2, Or.inr n.1, n.2.2⟩

/-- (S) the one case analysis behind the Cartesian form of the projection: along the target when the factor is non-negative, a half
    turn on when it is negative -/
theorem project_cases {a b : Geonum F} (hb : flt (fabs b.mag) e10 = false) (hf : Fin (a.angle.project b.angle)) :
    (0 ≤ val (a.angle.project b.angle) ∧ (a.project b).angle = b.angle) ∨
    (val (a.angle.project b.angle) < 0 ∧ (a.project b).angle = b.angle.negate) := by
  obtain ⟨_, h0, h1, _⟩ := project_structure a b hb
  by_cases h : fge (a.angle.project b.angle) (zero : F) = true
  · exact Or.inl ⟨val_zero (F := F) ▸ (fle_spec fin_zero hf).mp h, h0 h⟩
  · exact Or.inr ⟨lt_of_not_ge fun hc => h ((fle_spec fin_zero hf).mpr (by rwa [val_zero])), h1 (by simpa using h)⟩

end S

/-! ### E-tier: exact arithmetic -/
section E
open GeonumModel.Exact

/-- (E) projecting an angle onto an angle gives `cos(T onto − T a + δ)`; the projection's magnitude is `|a|·|cos(T b − T a + δ)|`;
    projection onto an angle is `|a|·cos` with the sign on the 0/π lattice -/
theorem project_values_real {a b : Geonum ℝ} (ha : a.angle.Inv) (hb : b.angle.Inv) (hbm : flt (fabs b.mag) (e10 : ℝ) = false) :
    ∃ δ : ℝ, |δ| < 1 / 10 ^ 10 + 1 / 10 ^ 15 ∧
      a.angle.project b.angle = Real.cos (T b.angle - T a.angle + δ) ∧
      (a.project b).mag = a.mag * |Real.cos (T b.angle - T a.angle + δ)| := by
  obtain ⟨δ, hδ, hcos, _⟩ := cos_sub_gradeAngle ha hb
  refine ⟨δ, hδ, hcos, ?_⟩
  rw [(project_structure a b hbm).1, ← hcos]; rfl

/-- (E) so `|proj| = |a||cos(T b − T a)|` to within `|a|·(1e-10 + 1e-15)` -/
theorem project_mag_close {a b : Geonum ℝ} (ha : a.angle.Inv) (hb : b.angle.Inv) (h0a : 0 ≤ a.mag)
    (hbm : flt (fabs b.mag) (e10 : ℝ) = false) :
    abs ((a.project b).mag - a.mag * abs (Real.cos (T b.angle - T a.angle))) ≤ a.mag * (1 / 10 ^ 10 + 1 / 10 ^ 15) := by
  obtain ⟨δ, hδ, _, hm⟩ := project_values_real ha hb hbm
  rw [hm]
  exact abs_mul_sub_le h0a ((abs_abs_sub_abs_le_abs_sub _ _).trans ((cos_lipschitz _ _).trans hδ.le))

/-- (E) **the projection is the vector `(a·b̂)b̂`**: its Cartesian point is `|a|·cos(T b − T a + δ)` along `b`'s direction (the
    half turn for a negative cosine is absorbed in the sign), so it is independent of `|b|` and within `|a|·(1e-10+1e-15)` of the
    orthogonal projection of `cart a` onto `b`'s ray -/
theorem project_cart_real {a b : Geonum ℝ} (ha : a.angle.Inv) (hb : b.angle.Inv) (hbm : flt (fabs b.mag) (e10 : ℝ) = false) :
    ∃ δ : ℝ, |δ| < 1 / 10 ^ 10 + 1 / 10 ^ 15 ∧
      cart (a.project b) = polar (a.mag * Real.cos (T b.angle - T a.angle + δ)) (T b.angle) := by
  obtain ⟨δ, hδ, hf, hm⟩ := project_values_real ha hb hbm
  refine ⟨δ, hδ, ?_⟩
  show polar (a.project b).mag (T (a.project b).angle) = _
  rw [hm]
  rcases project_cases (a := a) hbm trivial with ⟨h0, hang⟩ | ⟨h0, hang⟩ <;> rw [val_id, hf] at h0 <;> rw [hang]
  · rw [abs_of_nonneg h0]
  · rw [abs_of_neg h0, negate_total_real hb, polar_add_pi, ← polar_neg]; congr 1; ring

/-- (E) projection plus rejection reproduces `a` (as Cartesian points, to within the tolerance of one subtraction) -/
theorem project_add_reject_real {a b : Geonum ℝ} (ha : a.angle.Inv) (hb : b.angle.Inv) (h0a : 0 ≤ a.mag)
    (hbm : flt (fabs b.mag) (e10 : ℝ) = false) (hg : Fin (b.angle.sub a.angle).gradeAngle)
    (hcb : a.angle.blade + (b.angle.blade + 4) ≤ 2 ^ 40) :
    ‖cart (a.project b) + cart (a.reject b) - cart a‖ ≤ 1 / 10 ^ 10 * (1 + a.mag + (a.project b).mag) := by
  obtain ⟨hpinv, hpbl, _⟩ := project_angle (a := a) hbm hb
  have hpm := project_mag_bounds (F := ℝ) (a := a) (b := b) trivial h0a hbm hg
  have h := sub_refines ha hpinv h0a hpm.1 (by rcases hpbl with h | h <;> rw [h] <;> omega)
  rwa [show cart (a.project b) + cart (a.reject b) - cart a = cart (a.sub (a.project b)) - (cart a - cart (a.project b)) by
    show cart (a.project b) + cart (a.sub (a.project b)) - cart a = _; ring]

/-- (E) **the rejection is orthogonal to `b`**: the exact residual `cart a − cart(proj)` has a component along `b`'s direction of at
    most `|a|·(1e-10+1e-15)`, and `|proj|² + |residual|² = |a|²` to within `2|a|²·(1e-10+1e-15)` (Pythagoras) -/
theorem rejection_orthogonal_real {a b : Geonum ℝ} (ha : a.angle.Inv) (hb : b.angle.Inv) (h0a : 0 ≤ a.mag)
    (hbm : flt (fabs b.mag) (e10 : ℝ) = false) :
    let res := cart a - cart (a.project b)
    |res.re * Real.cos (T b.angle) + res.im * Real.sin (T b.angle)| ≤ a.mag * (1 / 10 ^ 10 + 1 / 10 ^ 15) ∧
    |(a.project b).mag ^ 2 + Complex.normSq res - a.mag ^ 2| ≤ 2 * a.mag ^ 2 * (1 / 10 ^ 10 + 1 / 10 ^ 15) := by
  intro res
  obtain ⟨δ, hδ, hc⟩ := project_cart_real ha hb hbm
  obtain ⟨M, hMdef⟩ : ∃ M : ℝ, M = a.mag * Real.cos (T b.angle - T a.angle + δ) := ⟨_, rfl⟩
  rw [← hMdef] at hc
  have hres : res = polar a.mag (T a.angle) - polar M (T b.angle) := by rw [← hc]; rfl
  -- the signed length `M` misses that of the orthogonal projection by `D`; both claims are identities in `D`
  have hD : |a.mag * Real.cos (T b.angle - T a.angle) - M| ≤ a.mag * (1 / 10 ^ 10 + 1 / 10 ^ 15) := by
    rw [hMdef, abs_sub_comm]; exact abs_mul_sub_le h0a ((cos_lipschitz _ _).trans hδ.le)
  have e1 : res.re * Real.cos (T b.angle) + res.im * Real.sin (T b.angle) = a.mag * Real.cos (T b.angle - T a.angle) - M := by
    rw [hres, ← polar_along]; simp only [polar, Complex.sub_re, Complex.sub_im]
    linear_combination (-M) * cos_mul_self_add_sin_mul_self (T b.angle)
  have hpm : (a.project b).mag ^ 2 = M * M := by
    have hn : |(a.project b).mag| = |M| := by rw [← norm_polar _ (T (a.project b).angle), ← norm_polar M (T b.angle)]; exact congrArg _ hc
    rw [← sq_abs, hn, sq_abs, sq]
  have e2 : (a.project b).mag ^ 2 + Complex.normSq res - a.mag ^ 2 = -(2 * M) * (a.mag * Real.cos (T b.angle - T a.angle) - M) := by
    rw [hpm, hres, normSq_polar_sub]; ring
  have hMle : |M| ≤ a.mag := hMdef ▸ abs_mul_unit_le h0a (Real.abs_cos_le_one _)
  refine ⟨e1 ▸ hD, ?_⟩
  rw [e2, abs_mul, abs_neg, abs_mul, abs_two]
  calc 2 * |M| * |a.mag * Real.cos (T b.angle - T a.angle) - M| ≤ 2 * a.mag * (a.mag * (1 / 10 ^ 10 + 1 / 10 ^ 15)) :=
        mul_le_mul (mul_le_mul_of_nonneg_left hMle zero_le_two) hD (abs_nonneg _) (mul_nonneg zero_le_two h0a)
    _ = 2 * a.mag ^ 2 * (1 / 10 ^ 10 + 1 / 10 ^ 15) := by ring

end E

/-! PARTIAL: `project_to_dimension k = |a|cos(kπ/2 − t)` is proved in rounded arithmetic (`projectToDimension_float`); it is not
    stated in exact arithmetic. -/

/-! ### B-tier: projections in rounded arithmetic, angles in true radians -/

/-- the component along the unit vector `(c, s)` of a residual `R ≈ A − M·(c, s)` (up to `B` per component) when `M` is within `D` of
    `A·(c, s)` -/
theorem along_real {Xr Yr Xa Ya M c s B D : ℝ} (hcs : c * c + s * s = 1) (hc : |c| ≤ 1) (hs : |s| ≤ 1)
    (ex : |Xr + M * c - Xa| ≤ B) (ey : |Yr + M * s - Ya| ≤ B) (hM : |M - (Xa * c + Ya * s)| ≤ D) :
    |Xr * c + Yr * s| ≤ 2 * B + D := by
  have e : Xr * c + Yr * s = (Xr + M * c - Xa) * c + (Yr + M * s - Ya) * s - (M - (Xa * c + Ya * s)) := by
    linear_combination (-M) * hcs
  have t1 : |(Xr + M * c - Xa) * c| ≤ B := by rw [abs_mul]; exact le_trans (mul_le_of_le_one_right (abs_nonneg _) hc) ex
  have t2 : |(Yr + M * s - Ya) * s| ≤ B := by rw [abs_mul]; exact le_trans (mul_le_of_le_one_right (abs_nonneg _) hs) ey
  rw [e]
  linarith only [abs_sub ((Xr + M * c - Xa) * c + (Yr + M * s - Ya) * s) (M - (Xa * c + Ya * s)),
    abs_add_le ((Xr + M * c - Xa) * c) ((Yr + M * s - Ya) * s), t1, t2, hM]

/-- Pythagoras from the three Cartesian facts: `P = M·(c, s)`, `P + R = A` up to `B` per component, `R·(c, s)` small -/
theorem pyth_real {A R M c s Xa Ya Xr Yr B D : ℝ} (hcs : c * c + s * s = 1) (hA : Xa * Xa + Ya * Ya = A * A) (hR : Xr * Xr + Yr * Yr = R * R)
    (hA0 : 0 ≤ A) (hB0 : 0 ≤ B) (hxa : |Xa| ≤ A) (hya : |Ya| ≤ A)
    (ex : |Xr + M * c - Xa| ≤ B) (ey : |Yr + M * s - Ya| ≤ B) (hd : |Xr * c + Yr * s| ≤ D) :
    |A * A - R * R - M * M| ≤ 2 * |M| * D + 4 * B * A + 2 * (B * B) := by
  have key : A * A - R * R - M * M = 2 * M * (Xr * c + Yr * s) - 2 * (Xr + M * c - Xa) * Xa - 2 * (Yr + M * s - Ya) * Ya
      - (Xr + M * c - Xa) * (Xr + M * c - Xa) - (Yr + M * s - Ya) * (Yr + M * s - Ya) := by
    linear_combination (-1 : ℝ) * hA + hR + M * M * hcs
  have t1 : |2 * M * (Xr * c + Yr * s)| ≤ 2 * |M| * D := by
    rw [abs_mul, abs_mul, abs_two]; exact mul_le_mul_of_nonneg_left hd (by positivity)
  have t2 : |2 * (Xr + M * c - Xa) * Xa| ≤ 2 * B * A := by
    rw [abs_mul, abs_mul, abs_two]
    exact mul_le_mul (mul_le_mul_of_nonneg_left ex zero_le_two) hxa (abs_nonneg _) (mul_nonneg zero_le_two hB0)
  have t3 : |2 * (Yr + M * s - Ya) * Ya| ≤ 2 * B * A := by
    rw [abs_mul, abs_mul, abs_two]
    exact mul_le_mul (mul_le_mul_of_nonneg_left ey zero_le_two) hya (abs_nonneg _) (mul_nonneg zero_le_two hB0)
  have t4 : |(Xr + M * c - Xa) * (Xr + M * c - Xa)| ≤ B * B := by rw [abs_mul]; exact mul_le_mul ex ex (abs_nonneg _) hB0
  have t5 : |(Yr + M * s - Ya) * (Yr + M * s - Ya)| ≤ B * B := by rw [abs_mul]; exact mul_le_mul ey ey (abs_nonneg _) hB0
  rw [key]
  linarith only [t1, t2, t3, t4, t5, abs_sub (2 * M * (Xr * c + Yr * s) - 2 * (Xr + M * c - Xa) * Xa - 2 * (Yr + M * s - Ya) * Ya
      - (Xr + M * c - Xa) * (Xr + M * c - Xa)) ((Yr + M * s - Ya) * (Yr + M * s - Ya)),
    abs_sub (2 * M * (Xr * c + Yr * s) - 2 * (Xr + M * c - Xa) * Xa - 2 * (Yr + M * s - Ya) * Ya)
      ((Xr + M * c - Xa) * (Xr + M * c - Xa)),
    abs_sub (2 * M * (Xr * c + Yr * s) - 2 * (Xr + M * c - Xa) * Xa) (2 * (Yr + M * s - Ya) * Ya),
    abs_sub (2 * M * (Xr * c + Yr * s)) (2 * (Xr + M * c - Xa) * Xa)]

section B
variable {F : Type} [FloatSpec F]

/-- (B) **projection onto the `k`-th dimension in rounded arithmetic** is `|g|·cos(k·π/2 − T g)` (true π) to within
    `|g|·(1e-10 + 1e-14) + 1e-30` for every dimension index below `2^53`: the error does not grow with `k`, because the difference
    of the two angles is taken in exact blade arithmetic before any float is formed -/
theorem projectToDimension_float {g : Geonum F} (hg : g.angle.Inv) (hm : Fin g.mag) (hm0 : 0 ≤ val g.mag)
    (k : ℕ) (hk : k < 2 ^ 53) :
    |val (g.projectToDimension k) - val g.mag * Real.cos ((k : ℝ) * (Real.pi / 2) - Angle.Tpi g.angle)|
      ≤ val g.mag * (val (e10 : F) + 1 / 10 ^ 14) + 1 / 10 ^ 30 :=
  Geonum.projectToDimension_float hg hm hm0 k hk

/-- (B) **length of the projection of `a` onto `b` in rounded arithmetic** (`|b| ≥ 1e-10` branch): `|a|·|cos(T b − T a)|` to within
    `|a|·(1e-10 + 1e-14) + 1e-30`, independent of `|b|` -/
theorem project_mag_float {a b : Geonum F} (ha : a.angle.Inv) (hb : b.angle.Inv) (hm : Fin a.mag) (hm0 : 0 ≤ val a.mag)
    (hbm : flt (fabs b.mag) e10 = false) :
    |val (a.project b).mag - val a.mag * abs (Real.cos (Angle.Tpi b.angle - Angle.Tpi a.angle))|
      ≤ val a.mag * (val (e10 : F) + 1 / 10 ^ 14) + 1 / 10 ^ 30 :=
  Geonum.project_mag_float ha hb hm hm0 hbm

/-- (B) `Angle::project` is the cosine of the true difference of totals to within `1e-10 + 8e-15`, and never exceeds one -/
theorem angle_project_float {a onto : Angle F} (ha : a.Inv) (ho : onto.Inv) :
    Fin (a.project onto) ∧ |val (a.project onto)| ≤ 1 ∧
    |val (a.project onto) - Real.cos (Angle.Tpi onto - Angle.Tpi a)| ≤ val (e10 : F) + 8 / 10 ^ 15 :=
  Angle.project_float ha ho

/-- (B) **projection plus rejection reproduces `a` in rounded arithmetic** (general branch of the underlying subtraction): with
    `p = a.project b` and `r = a.reject b = a − p`, the Cartesian components of `p` and `r` add up to those of `a` (angles in true radians)
    within `(|a| + |p|)·(2e-7 + 1.1·(1e-10 + (40·(ba + bp + 2) + 170)·2⁻⁵³)) + 1e-28` — whatever the blade histories -/
theorem project_add_reject_float {a b : Geonum F} (ha : a.angle.Inv) (hpinv : (a.project b).angle.Inv)
    (hma : a.MagDom) (hmp : (a.project b).MagDom)
    (hcb : a.angle.blade + (a.project b).angle.blade + 2 ≤ 2 ^ 39)
    (h1 : Geonum.sameAngle a (a.project b).negate = false) (h2 : Geonum.oppositeAngle a (a.project b).negate = false) :
    |val (a.reject b).mag * Real.cos (Angle.Tpi (a.reject b).angle) + val (a.project b).mag * Real.cos (Angle.Tpi (a.project b).angle)
        - val a.mag * Real.cos (Angle.Tpi a.angle)|
      ≤ (val a.mag + val (a.project b).mag) * (2 / 10 ^ 7 + 11 / 10 * (val (e10 : F)
          + (40 * ((a.angle.blade + (a.project b).angle.blade + 2 : ℕ) : ℝ) + 170) * (1 / 2 ^ 53))) + 1 / 10 ^ 28 ∧
    |val (a.reject b).mag * Real.sin (Angle.Tpi (a.reject b).angle) + val (a.project b).mag * Real.sin (Angle.Tpi (a.project b).angle)
        - val a.mag * Real.sin (Angle.Tpi a.angle)|
      ≤ (val a.mag + val (a.project b).mag) * (2 / 10 ^ 7 + 11 / 10 * (val (e10 : F)
          + (40 * ((a.angle.blade + (a.project b).angle.blade + 2 : ℕ) : ℝ) + 170) * (1 / 2 ^ 53))) + 1 / 10 ^ 28 :=
  prod_norm_le.mp (Geonum.sub_cartF_float ha hpinv hma hmp hcb h1 h2)

/-- (B) **projection plus rejection reproduces `a` in rounded arithmetic, in EVERY branch** of the underlying subtraction — in particular
    when `a` is parallel or anti-parallel to `b`, where `a − p` runs through the same-angle / opposite branch: the Cartesian components of
    `p = a.project b` and `r = a.reject b` add up to those of `a` within the every-branch bound -/
theorem project_add_reject_every_branch_float {a b : Geonum F} (ha : a.angle.Inv) (hpinv : (a.project b).angle.Inv)
    (hma : a.MagDom) (hmp : (a.project b).MagDom)
    (hcb : a.angle.blade + (a.project b).angle.blade + 2 ≤ 2 ^ 39) :
    |val (a.reject b).mag * Real.cos (Angle.Tpi (a.reject b).angle) + val (a.project b).mag * Real.cos (Angle.Tpi (a.project b).angle)
        - val a.mag * Real.cos (Angle.Tpi a.angle)|
      ≤ (val a.mag + val (a.project b).mag) * (2 / 10 ^ 7 + 11 / 10 * (val (e10 : F)
          + (40 * ((a.angle.blade + (a.project b).angle.blade + 2 : ℕ) : ℝ) + 170) * (1 / 2 ^ 53))) + 1 / 10 ^ 28 + 2 * val (e10 : F) ∧
    |val (a.reject b).mag * Real.sin (Angle.Tpi (a.reject b).angle) + val (a.project b).mag * Real.sin (Angle.Tpi (a.project b).angle)
        - val a.mag * Real.sin (Angle.Tpi a.angle)|
      ≤ (val a.mag + val (a.project b).mag) * (2 / 10 ^ 7 + 11 / 10 * (val (e10 : F)
          + (40 * ((a.angle.blade + (a.project b).angle.blade + 2 : ℕ) : ℝ) + 170) * (1 / 2 ^ 53))) + 1 / 10 ^ 28 + 2 * val (e10 : F) :=
  prod_norm_le.mp (Geonum.sub_cartF_every_branch ha hpinv hma hmp hcb)

/-- (B) **the projection as a Cartesian vector, in rounded arithmetic** (`|b| ≥ 1e-10` branch): it is `M·(cos T b, sin T b)` for a signed
    length `M` within `|a|·(1e-10 + 1e-14) + 1e-30` of `|a|·cos(T b − T a)` — the vector `(a·b̂)b̂`, the sign carried by the half turn -/
theorem project_cartesian_float {a b : Geonum F} (ha : a.angle.Inv) (hb : b.angle.Inv) (hm : Fin a.mag) (hm0 : 0 ≤ val a.mag)
    (hbm : flt (fabs b.mag) e10 = false) :
    ∃ M : ℝ, val (a.project b).mag * Real.cos (Angle.Tpi (a.project b).angle) = M * Real.cos (Angle.Tpi b.angle) ∧
      val (a.project b).mag * Real.sin (Angle.Tpi (a.project b).angle) = M * Real.sin (Angle.Tpi b.angle) ∧
      |M - val a.mag * Real.cos (Angle.Tpi b.angle - Angle.Tpi a.angle)| ≤ val a.mag * (val (e10 : F) + 1 / 10 ^ 14) + 1 / 10 ^ 30 ∧
      Fin (a.project b).mag ∧ (M = val (a.project b).mag ∨ M = -val (a.project b).mag) := by
  obtain ⟨hfp, hp1, hclose⟩ := Angle.project_float ha hb
  obtain ⟨hfa, hva⟩ := fabs_spec hfp
  have hc1 : |val (fabs (a.angle.project b.angle))| ≤ 1 := by rw [hva, abs_abs]; exact hp1
  rw [(project_structure a b hbm).1]
  rcases project_cases hbm hfp with ⟨hf0, hang⟩ | ⟨hf0, hang⟩ <;> rw [hang]
  · obtain ⟨hfm, hmm⟩ := mul_unit_snap hm hm0 hfa hc1 (by rw [hva, abs_of_nonneg hf0]; exact hclose)
    exact ⟨_, rfl, rfl, hmm, hfm, Or.inl rfl⟩
  · obtain ⟨hfm, hmm⟩ := mul_unit_snap (C := -Real.cos (Angle.Tpi b.angle - Angle.Tpi a.angle)) hm hm0 hfa hc1
      (by rw [hva, abs_of_neg hf0, ← neg_sub', abs_neg]; exact hclose)
    refine ⟨-val (fmul a.mag (fabs (a.angle.project b.angle))), ?_, ?_, ?_, hfm, Or.inr rfl⟩
    · rw [Angle.Tpi_negate hb, Real.cos_add_pi]; ring
    · rw [Angle.Tpi_negate hb, Real.sin_add_pi]; ring
    · rw [← abs_neg, neg_sub', neg_neg, ← mul_neg]; exact hmm

theorem project_magDom {a b : Geonum F} (ha : a.angle.Inv) (hb : b.angle.Inv) (hma : a.MagDom)
    (hbm : flt (fabs b.mag) e10 = false) : (a.project b).MagDom := by
  obtain ⟨hf, hp0, hp1⟩ := project_mag_fin hma.1 hma.2.1 hbm (gradeAngle_fin (geometricSub_inv hb ha))
  exact ⟨hf, hp0, le_trans hp1 hma.2.2⟩

/-- (B) **the rejection is orthogonal to `b`, in rounded arithmetic**: the component of `r = a.reject b` along `b̂` — `r·b̂` in Cartesian
    components — is at most twice the every-branch subtraction bound plus the projection's own accuracy; whatever branch `a − p` takes
    (`a ∥ b` included) -/
theorem reject_orthogonal_float {a b : Geonum F} (ha : a.angle.Inv) (hb : b.angle.Inv) (hma : a.MagDom)
    (hbm : flt (fabs b.mag) e10 = false) (hcb : a.angle.blade + (a.project b).angle.blade + 2 ≤ 2 ^ 39) :
    |val (a.reject b).mag * Real.cos (Angle.Tpi (a.reject b).angle) * Real.cos (Angle.Tpi b.angle)
        + val (a.reject b).mag * Real.sin (Angle.Tpi (a.reject b).angle) * Real.sin (Angle.Tpi b.angle)|
      ≤ 2 * ((val a.mag + val (a.project b).mag) * (2 / 10 ^ 7 + 11 / 10 * (val (e10 : F)
          + (40 * ((a.angle.blade + (a.project b).angle.blade + 2 : ℕ) : ℝ) + 170) * (1 / 2 ^ 53))) + 1 / 10 ^ 28 + 2 * val (e10 : F))
        + (val a.mag * (val (e10 : F) + 1 / 10 ^ 14) + 1 / 10 ^ 30) := by
  obtain ⟨M, hX, hY, hM, _, _⟩ := project_cartesian_float ha hb hma.1 hma.2.1 hbm
  obtain ⟨s1, s2⟩ := project_add_reject_every_branch_float (b := b) ha (project_angle (a := a) hbm hb).1 hma
    (project_magDom ha hb hma hbm) hcb
  rw [hX] at s1; rw [hY] at s2; rw [← polar_along] at hM
  exact along_real (cos_mul_self_add_sin_mul_self _) (Real.abs_cos_le_one _) (Real.abs_sin_le_one _) s1 s2 hM

/-- (B) **Pythagoras for projection and rejection, in rounded arithmetic**: `|a|² = |p|² + |r|²` for `p = a.project b`, `r = a.reject b`, up
    to `2|p|·D + 4·B·|a| + 2·B²` with `B` the every-branch subtraction bound and `D = 2B + |a|(1e-10+1e-14) + 1e-30` the orthogonality bound -/
theorem project_pythagoras_float {a b : Geonum F} (ha : a.angle.Inv) (hb : b.angle.Inv) (hma : a.MagDom)
    (hbm : flt (fabs b.mag) e10 = false) (hcb : a.angle.blade + (a.project b).angle.blade + 2 ≤ 2 ^ 39) :
    |val a.mag * val a.mag - val (a.reject b).mag * val (a.reject b).mag - val (a.project b).mag * val (a.project b).mag|
      ≤ 2 * val (a.project b).mag
          * (2 * ((val a.mag + val (a.project b).mag) * (2 / 10 ^ 7 + 11 / 10 * (val (e10 : F)
              + (40 * ((a.angle.blade + (a.project b).angle.blade + 2 : ℕ) : ℝ) + 170) * (1 / 2 ^ 53))) + 1 / 10 ^ 28 + 2 * val (e10 : F))
            + (val a.mag * (val (e10 : F) + 1 / 10 ^ 14) + 1 / 10 ^ 30))
        + 4 * ((val a.mag + val (a.project b).mag) * (2 / 10 ^ 7 + 11 / 10 * (val (e10 : F)
              + (40 * ((a.angle.blade + (a.project b).angle.blade + 2 : ℕ) : ℝ) + 170) * (1 / 2 ^ 53))) + 1 / 10 ^ 28 + 2 * val (e10 : F)) * val a.mag
        + 2 * (((val a.mag + val (a.project b).mag) * (2 / 10 ^ 7 + 11 / 10 * (val (e10 : F)
              + (40 * ((a.angle.blade + (a.project b).angle.blade + 2 : ℕ) : ℝ) + 170) * (1 / 2 ^ 53))) + 1 / 10 ^ 28 + 2 * val (e10 : F))
          * ((val a.mag + val (a.project b).mag) * (2 / 10 ^ 7 + 11 / 10 * (val (e10 : F)
              + (40 * ((a.angle.blade + (a.project b).angle.blade + 2 : ℕ) : ℝ) + 170) * (1 / 2 ^ 53))) + 1 / 10 ^ 28 + 2 * val (e10 : F))) := by
  obtain ⟨M, hX, hY, _, _, hMs⟩ := project_cartesian_float ha hb hma.1 hma.2.1 hbm
  have hmp := project_magDom ha hb hma hbm
  obtain ⟨s1, s2⟩ := project_add_reject_every_branch_float (b := b) ha (project_angle (a := a) hbm hb).1 hma hmp hcb
  rw [hX] at s1; rw [hY] at s2
  have key := pyth_real (cos_mul_self_add_sin_mul_self _) (polar_mul_self (val a.mag) (Angle.Tpi a.angle))
    (polar_mul_self (val (a.reject b).mag) (Angle.Tpi (a.reject b).angle)) hma.2.1 (le_trans (abs_nonneg _) s1)
    (abs_mul_unit_le hma.2.1 (Real.abs_cos_le_one _)) (abs_mul_unit_le hma.2.1 (Real.abs_sin_le_one _)) s1 s2 (reject_orthogonal_float ha hb hma hbm hcb)
  rcases hMs with h | h <;> rw [h] at key
  · rwa [abs_of_nonneg hmp.2.1] at key
  · rwa [abs_neg, abs_of_nonneg hmp.2.1, neg_mul_neg] at key

end B

example {F : Type} [FloatSpec F] : (⟨zero, 1⟩ : Angle F).Inv := inv_zero 1

/-! ### R — on the arithmetic that really rounds (`R64`) -/
section R

/-- (R) `project_to_dimension(k)` is `|g|cos(kπ/2 − T g)` for every binary64 number and every `k < 2^53` -/
theorem projectToDimension_rounded {g : Geonum R64} (hg : g.angle.Inv) (hm0 : 0 ≤ g.mag.v) (k : ℕ) (hk : k < 2 ^ 53) :
    |(g.projectToDimension k).v - g.mag.v * Real.cos ((k : ℝ) * (Real.pi / 2) - Angle.Tpi g.angle)|
      ≤ g.mag.v * ((e10 : R64).v + 1 / 10 ^ 14) + 1 / 10 ^ 30 :=
  projectToDimension_float (F := R64) hg trivial hm0 k hk

end R

end GeonumModel.C11
