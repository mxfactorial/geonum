/-
  C14 — Addition keeps blade history by a fixed, symmetric policy.
-/
import GeonumModel.Spec.RoundWitness
import GeonumModel.Lemmas.ExactAdd
import GeonumModel.Lemmas.FloatSumDir

set_option linter.unusedVariables false

namespace GeonumModel.C14
open GeonumModel FloatLike FloatSpec Angle Geonum

section G
variable {F : Type} [FloatLike F]

/-- (G) identical angles: the sum keeps that angle (the receiver's angle field itself) and adds the magnitudes -/
theorem same_angle_policy (a b : Geonum F) (h : sameAngle a b = true) :
    (a.add b).angle = a.angle ∧ (a.add b).mag = fadd a.mag b.mag := by
  rw [add_same a b h]; exact ⟨rfl, rfl⟩

/-- (G) exactly a half turn apart: cancellation within 1e-10 gives magnitude `0.0` at `new_with_blade(ba+bb, 0, 1)`;
    otherwise the larger summand's angle field is kept with the magnitude difference -/
theorem opposite_policy (a b : Geonum F) (h1 : sameAngle a b = false) (h2 : oppositeAngle a b = true) :
    (flt (fabs (fsub a.mag b.mag)) e10 = true →
        a.add b = ⟨zero, Angle.newWithBlade (a.angle.blade + b.angle.blade) zero one⟩) ∧
    (flt (fabs (fsub a.mag b.mag)) e10 = false → flt zero (fsub a.mag b.mag) = true →
        a.add b = ⟨fsub a.mag b.mag, a.angle⟩) ∧
    (flt (fabs (fsub a.mag b.mag)) e10 = false → flt zero (fsub a.mag b.mag) = false →
        a.add b = ⟨fneg (fsub a.mag b.mag), b.angle⟩) :=
  ⟨add_opposite_cancel a b h1 h2, add_opposite_first a b h1 h2, add_opposite_second a b h1 h2⟩
end G

section S
variable {F : Type} [FloatSpec F]

/-- (S) the cancellation result is literally magnitude `0.0`, remainder `0.0`, blade = the sum of both blade counts -/
theorem cancel_result (a b : Geonum F) (hk : a.angle.blade + b.angle.blade < 2 ^ 53)
    (h1 : sameAngle a b = false) (h2 : oppositeAngle a b = true) (h3 : flt (fabs (fsub a.mag b.mag)) e10 = true) :
    a.add b = ⟨zero, ⟨zero, a.angle.blade + b.angle.blade⟩⟩ := by
  rw [add_opposite_cancel a b h1 h2 h3, newWithBlade_zero _ hk]

/-- (S) the equality test is blade-exact, so the same-angle branch is only taken for equal blade counts, and the opposite
    branch only for blade counts exactly two apart — the policy cannot silently merge histories -/
theorem same_angle_blades (a b : Geonum F) (h : sameAngle a b = true) : a.angle.blade = b.angle.blade := by
  by_contra hne
  rw [sameAngle, Angle.beq_of_blade_ne hne] at h
  cases h

theorem opposite_blades {a b : Geonum F} (ha : a.angle.Inv) (hb : b.angle.Inv) (h2 : oppositeAngle a b = true) :
    b.angle.blade = a.angle.blade + 2 ∨ a.angle.blade = b.angle.blade + 2 := by
  unfold oppositeAngle at h2
  rw [Bool.or_eq_true] at h2
  have na := (negate_spec ha).1; have nb := (negate_spec hb).1
  unfold Angle.negate at na nb
  rcases h2 with h | h
  · left
    by_contra hne
    rw [Angle.beq_of_blade_ne (by rw [na]; omega)] at h
    cases h
  · right
    by_contra hne
    rw [Angle.beq_of_blade_ne (by rw [nb]; omega)] at h
    cases h

/-- (S) **the branch taken by `a + b` and by `b + a` is the same**: both special-case tests are symmetric -/
theorem branch_symmetric {a b : Geonum F} (ha : a.angle.Inv) (hb : b.angle.Inv) :
    sameAngle a b = sameAngle b a ∧ oppositeAngle a b = oppositeAngle b a := by
  refine ⟨beq_symm ha.1 hb.1 (ha.inRange_sub_rem hb), ?_⟩
  unfold oppositeAngle; rw [Bool.or_comm]

/-- (S) hence in the same-angle and opposite regimes `a + b` and `b + a` carry the same blade count -/
theorem special_branches_blade_symmetric {a b : Geonum F} (ha : a.angle.Inv) (hb : b.angle.Inv)
    (hma : Fin a.mag) (hmb : Fin b.mag) (hr : InRange (F := F) (val a.mag - val b.mag))
    (hspecial : sameAngle a b = true ∨ oppositeAngle a b = true) :
    (a.add b).angle.blade = (b.add a).angle.blade := by
  obtain ⟨hs, ho⟩ := branch_symmetric ha hb
  cases h1 : sameAngle a b
  · have h2 : oppositeAngle a b = true := hspecial.resolve_left (by rw [h1]; exact Bool.false_ne_true)
    have h1b : sameAngle b a = false := hs ▸ h1
    have h2b : oppositeAngle b a = true := ho ▸ h2
    -- magnitude difference and its mirror image
    have hr' : InRange (F := F) (val b.mag - val a.mag) := inRange_mono (by rw [abs_sub_comm]) hr
    obtain ⟨hf1, hv1⟩ := fsub_spec hma hmb hr
    obtain ⟨hf2, hv2⟩ := fsub_spec hmb hma hr'
    have hneg : val (fsub b.mag a.mag) = -val (fsub a.mag b.mag) := by
      rw [hv1, hv2, ← neg_sub (val a.mag) (val b.mag), rnd_neg]
    have ht := abs_test_symm hma hmb (fin_e10 (F := F)) hr
    cases h3 : flt (fabs (fsub a.mag b.mag)) (e10 : F)
    · have h3b : flt (fabs (fsub b.mag a.mag)) (e10 : F) = false := ht ▸ h3
      -- not cancelling: the difference is non-zero, so exactly one order sees it positive
      have hnz : val (fsub a.mag b.mag) ≠ 0 := by
        intro hz
        rw [(flt_spec (fabs_spec hf1).1 fin_e10).mpr (by rw [(fabs_spec hf1).2, hz, abs_zero]; exact val_e10_pos)] at h3
        cases h3
      cases h4 : flt (zero : F) (fsub a.mag b.mag)
      · have hlt : val (fsub a.mag b.mag) < 0 := lt_of_le_of_ne (not_lt.mp fun hc =>
          Bool.false_ne_true (h4.symm.trans ((flt_spec fin_zero hf1).mpr (by rwa [val_zero])))) hnz
        have h4b : flt (zero : F) (fsub b.mag a.mag) = true := by
          rw [flt_spec fin_zero hf2, val_zero, hneg]; linarith
        rw [add_opposite_second a b h1 h2 h3 h4, add_opposite_first b a h1b h2b h3b h4b]
      · have hpos : 0 < val (fsub a.mag b.mag) := by
          have := (flt_spec fin_zero hf1).mp h4; rwa [val_zero] at this
        have h4b : flt (zero : F) (fsub b.mag a.mag) = false := by
          rw [Bool.eq_false_iff]; intro hc
          have := (flt_spec fin_zero hf2).mp hc; rw [val_zero, hneg] at this; linarith
        rw [add_opposite_first a b h1 h2 h3 h4, add_opposite_second b a h1b h2b h3b h4b]
    · rw [add_opposite_cancel a b h1 h2 h3, add_opposite_cancel b a h1b h2b (ht ▸ h3), Nat.add_comm]
  · rw [add_same a b h1, add_same b a (hs ▸ h1)]
    exact same_angle_blades a b h1

/-- (S) in the general branch the two orders produce the *identical* angle structure (bit-identical on binary64): the projections
    sums are the same float sums by commutativity of `+`, and the blade sum commutes -/
theorem general_branch_angle_symmetric {a b : Geonum F} (ha : a.angle.Inv) (hb : b.angle.Inv)
    (hma : Fin a.mag) (hmb : Fin b.mag)
    (h1 : sameAngle a b = false) (h2 : oppositeAngle a b = false) :
    (a.add b).angle = (b.add a).angle := by
  obtain ⟨hs, ho⟩ := branch_symmetric ha hb
  rw [add_general a b h1 h2, add_general b a (hs ▸ h1) (ho ▸ h2)]
  have hga := gradeAngle_fin ha; have hgb := gradeAngle_fin hb
  obtain ⟨hfsa, hsa1, _⟩ := sin_spec hga
  obtain ⟨hfsb, hsb1, _⟩ := sin_spec hgb
  obtain ⟨hfca, hca1, _⟩ := cos_spec hga
  obtain ⟨hfcb, hcb1, _⟩ := cos_spec hgb
  have ho1 : oppSum a b = oppSum b a := fadd_comm (fmul_unit hma hfsa hsa1).1 (fmul_unit hmb hfsb hsb1).1
  have ha1 : adjSum a b = adjSum b a := fadd_comm (fmul_unit hma hfca hca1).1 (fmul_unit hmb hfcb hcb1).1
  show Angle.newWithBlade _ _ _ = Angle.newWithBlade _ _ _
  unfold adjusted
  rw [ho1, ha1, Nat.add_comm a.angle.blade b.angle.blade]

end S

/-! ### E-tier: the general regime in exact arithmetic -/
section E
open GeonumModel.Exact

/-- (E) in every case that is neither "identical angles" nor "a half turn apart", the sum's blade count is at least the sum of
    the operands' blade counts and at most one full turn above it — exactly one full turn only with remainder 0; so blade
    history is never lost.  (Exact arithmetic; the float code violates the upper bound for blade sums above ~1e5 because it
    forms `blade_sum·π/2` in f64 — known finding C14-large-blade-turn.) -/
theorem general_policy_real {a b : Geonum ℝ} (ha : a.angle.Inv) (hb : b.angle.Inv)
    (h1 : sameAngle a b = false) (h2 : oppositeAngle a b = false) (hcb : a.angle.blade + b.angle.blade ≤ 2 ^ 40) :
    a.angle.blade + b.angle.blade ≤ (a.add b).angle.blade ∧ (a.add b).angle.blade ≤ a.angle.blade + b.angle.blade + 4 ∧
    ((a.add b).angle.blade = a.angle.blade + b.angle.blade + 4 → (a.add b).angle.rem = 0) :=
  general_blade_real h1 h2 hcb

end E

section B
variable {F : Type} [FloatSpec F]

/-- (B) **the general regime in rounded arithmetic**: for canonical operands with magnitudes in the C01 domain and combined blade
    count `cb ≤ 2^39`, in every case that is neither "identical angles" nor "a half turn apart", `cb ≤ blade(a+b) ≤ cb + 4` —
    history is never lost and at most one full turn is gained — and the full turn is reached only with a remainder of at most
    `1e-10 + (48·cb + 200)·2⁻⁵³`.  For small `cb` that is the snap width (the property's "only with remainder 0" up to the
    library's own tolerance); the bound grows with `cb`, which is exactly known finding `C14-large-blade-turn` (for blade sums
    around 1e5 and above the f64 product `cb·π/2` carries an error that can exceed the snap, and the code then lands a full turn up
    with a visible remainder).  True of both witnesses of the contract, in particular of the rounding arithmetic `R64`. -/
theorem general_blade_float {a b : Geonum F} (ha : a.angle.Inv) (hb : b.angle.Inv) (hma : a.MagDom) (hmb : b.MagDom)
    (hcb : a.angle.blade + b.angle.blade ≤ 2 ^ 39) (h1 : sameAngle a b = false) (h2 : oppositeAngle a b = false) :
    a.angle.blade + b.angle.blade ≤ (a.add b).angle.blade ∧
    (a.add b).angle.blade ≤ a.angle.blade + b.angle.blade + 4 ∧
    ((a.add b).angle.blade = a.angle.blade + b.angle.blade + 4 →
      val (a.add b).angle.rem ≤ val (e10 : F) + (48 * ((a.angle.blade + b.angle.blade : ℕ) : ℝ) + 200) * (1 / 2 ^ 53) + 1 / 10 ^ 298) :=
  add_general_blade_float ha hb hma hmb hcb h1 h2

end B

/-! The symmetry clause — blade history identical for `a + b` and `b + a` — is proved in every branch: `special_branches_blade_symmetric`,
    `general_branch_angle_symmetric`. -/

example : sameAngle (⟨(1:ℝ), ⟨(0.5:ℝ), 3⟩⟩ : Geonum ℝ) ⟨2, ⟨0.5, 3⟩⟩ = true :=
  beq_of_val_eq (x := ⟨0.5, 3⟩) (y := ⟨0.5, 3⟩) trivial trivial rfl rfl


/-! ### R — on the arithmetic that really rounds (`R64`: round-to-nearest on the binary64 grid, correctly rounded libm); no hypothesis
    about the arithmetic is left -/
section R

/-- (R) the general regime of the blade-history policy for all pairs of binary64 numbers in the domain -/
theorem general_blade_rounded {a b : Geonum R64} (ha : a.angle.Inv) (hb : b.angle.Inv) (hma : a.MagDom) (hmb : b.MagDom)
    (hcb : a.angle.blade + b.angle.blade ≤ 2 ^ 39) (h1 : sameAngle a b = false) (h2 : oppositeAngle a b = false) :
    a.angle.blade + b.angle.blade ≤ (a.add b).angle.blade ∧
    (a.add b).angle.blade ≤ a.angle.blade + b.angle.blade + 4 ∧
    ((a.add b).angle.blade = a.angle.blade + b.angle.blade + 4 →
      (a.add b).angle.rem.v ≤ (e10 : R64).v + (48 * ((a.angle.blade + b.angle.blade : ℕ) : ℝ) + 200) * (1 / 2 ^ 53) + 1 / 10 ^ 298) :=
  general_blade_float (F := R64) ha hb hma hmb hcb h1 h2

end R

end GeonumModel.C14
