/-
  C07 — Blade-step operators are exact and histories accumulate exactly.
  G = any arithmetic; S = any arithmetic satisfying `FloatSpec`.
  "remainder untouched" is stated on the remainder's real value (`val`): on binary64 that is bit-identity
  except that a `-0.0` remainder would come back as `+0.0`.
-/
import GeonumModel.Spec.RoundWitness
import GeonumModel.Lemmas.AngleStep
import GeonumModel.Lemmas.AngleSub
import GeonumModel.Lemmas.GradeAngle

set_option linter.unusedSectionVars false

namespace GeonumModel.C07
open GeonumModel FloatLike FloatSpec Angle

section G
variable {F : Type} [FloatLike F]

/-- (G) grade is always blade mod 4, and the four grade predicates are exactly its four values -/
theorem grade_eq (a : Angle F) : a.grade = a.blade % 4 ∧ a.grade < 4 ∧
    (a.isScalar = true ↔ a.blade % 4 = 0) ∧ (a.isVector = true ↔ a.blade % 4 = 1) ∧
    (a.isBivector = true ↔ a.blade % 4 = 2) ∧ (a.isTrivector = true ↔ a.blade % 4 = 3) := by
  refine ⟨rfl, Nat.mod_lt _ (by norm_num), ?_, ?_, ?_, ?_⟩ <;> simp [isScalar, isVector, isBivector, isTrivector, grade]

/-- (G) reset-to-base keeps only blade mod 4 and returns the remainder field itself -/
theorem baseAngle_spec (a : Angle F) :
    a.baseAngle.blade = a.blade % 4 ∧ a.baseAngle.rem = a.rem ∧ a.baseAngle.grade = a.grade := by
  refine ⟨rfl, rfl, ?_⟩
  simp [baseAngle, grade]

/-- (G) the magnitude field is returned unchanged by every blade-step operator of `Geonum` -/
theorem mag_untouched (g o : Geonum F) :
    g.dual.mag = g.mag ∧ g.undual.mag = g.mag ∧ g.negate.mag = g.mag ∧ g.differentiate.mag = g.mag ∧
    g.integrate.mag = g.mag ∧ g.incrementBlade.mag = g.mag ∧ g.decrementBlade.mag = g.mag ∧
    g.baseAngle.mag = g.mag ∧ (g.copyBlade o).mag = g.mag :=
  ⟨rfl, rfl, rfl, rfl, rfl, rfl, rfl, rfl, rfl⟩

/-- (G) the opposite test is: blade counts differ by exactly two (as unbounded integers — no narrowing) and the
    remainder threshold test succeeds -/
theorem isOpposite_iff (a b : Angle F) :
    a.isOpposite b = true ↔
      (a.blade = b.blade + 2 ∨ b.blade = a.blade + 2) ∧ flt (fabs (fsub a.rem b.rem)) e15 = true := by
  unfold isOpposite absDiff
  simp only [Bool.and_eq_true, beq_iff_eq]
  constructor
  · rintro ⟨h, ht⟩; refine ⟨?_, ht⟩; split at h <;> omega
  · rintro ⟨h, ht⟩; refine ⟨?_, ht⟩; split <;> omega
end G

section S
variable {F : Type} [FloatSpec F]

/-- (S) two canonical angles whose blade counts differ by two and whose remainders have the same value test as opposite;
    and angles that test as opposite have remainders within `1e-15` -/
theorem isOpposite_of_equal_rem {a b : Angle F} (ha : a.Inv) (hb : b.Inv)
    (hbl : a.blade = b.blade + 2 ∨ b.blade = a.blade + 2) (hr : val a.rem = val b.rem) :
    a.isOpposite b = true := by
  rw [isOpposite_iff]
  exact ⟨hbl, test_of_val_eq ha.1 hb.1 fin_e15 hr val_e15_pos⟩

theorem isOpposite_rems {a b : Angle F} (ha : a.Inv) (hb : b.Inv) (h : a.isOpposite b = true) :
    |val a.rem - val b.rem| < val (e15 : F) ∧ (a.blade = b.blade + 2 ∨ b.blade = a.blade + 2) := by
  rw [isOpposite_iff] at h
  exact ⟨near_of_test ha.1 hb.1 fin_e15 (ha.inRange_sub_rem hb) h.2, h.1⟩

/-- (S) dual, undual, negation and conjugation add exactly two quarter turns; the remainder keeps its value and the
    result is canonical -/
theorem two_blade_ops {a : Angle F} (ha : a.Inv) :
    (a.dual.blade = a.blade + 2 ∧ val a.dual.rem = val a.rem ∧ a.dual.Inv) ∧
    (a.undual.blade = a.blade + 2 ∧ val a.undual.rem = val a.rem ∧ a.undual.Inv) ∧
    (a.negate.blade = a.blade + 2 ∧ val a.negate.rem = val a.rem ∧ a.negate.Inv) ∧
    (a.conjugate.blade = a.blade + 2 ∧ val a.conjugate.rem = val a.rem ∧ a.conjugate.Inv) :=
  ⟨step_of_spec ha (dual_spec ha), step_of_spec ha (undual_spec ha), step_of_spec ha (negate_spec ha),
    step_of_spec ha (conjugate_spec ha)⟩

/-- (S) differentiation and blade increment add one quarter turn, integration and blade decrement add three; the remainder
    keeps its value and the result is canonical -/
theorem one_three_blade_ops {g : Geonum F} (ha : g.angle.Inv) :
    (g.differentiate.angle.blade = g.angle.blade + 1 ∧ val g.differentiate.angle.rem = val g.angle.rem ∧
      g.differentiate.angle.Inv) ∧
    (g.incrementBlade.angle.blade = g.angle.blade + 1 ∧ val g.incrementBlade.angle.rem = val g.angle.rem ∧
      g.incrementBlade.angle.Inv) ∧
    (g.integrate.angle.blade = g.angle.blade + 3 ∧ val g.integrate.angle.rem = val g.angle.rem ∧ g.integrate.angle.Inv) ∧
    (g.decrementBlade.angle.blade = g.angle.blade + 3 ∧ val g.decrementBlade.angle.rem = val g.angle.rem ∧
      g.decrementBlade.angle.Inv) := by
  have key : ∀ {z : Angle F} {k : ℕ}, z = ⟨zero, k⟩ → (g.angle.geometricAdd z).blade = g.angle.blade + k ∧
      val (g.angle.geometricAdd z).rem = val g.angle.rem ∧ (g.angle.geometricAdd z).Inv := by
    rintro z k rfl
    exact step_of_spec ha (add_whole ha (z := ⟨zero, k⟩) fin_zero val_zero)
  exact ⟨key new_one_two, key new_one_two, key new_three_two, key new_negone_two⟩

/-- (S) the grade angle is `(blade mod 4)·π/2 + remainder` (to within 4e-15 of rounding) and lies in `[0, 2π)` -/
theorem gradeAngle_range {a : Angle F} (ha : a.Inv) :
    Fin a.gradeAngle ∧ |val a.gradeAngle - ((a.blade % 4 : ℕ) * val (qp : F) + val a.rem)| ≤ 4 / 10 ^ 15 ∧
    0 ≤ val a.gradeAngle ∧ val a.gradeAngle < 4 * val (qp : F) := gradeAngle_spec ha

/-- (S) **blade copy** reaches the other's grade — and its exact blade count when that is not smaller — leaving remainder value
    and magnitude untouched, and never decreasing the blade count (forward only) -/
theorem copyBlade_spec {g o : Geonum F} (hg : g.angle.Inv) (hgb : g.angle.blade < 2 ^ 49) (hob : o.angle.blade < 2 ^ 49) :
    (g.copyBlade o).mag = g.mag ∧ val (g.copyBlade o).angle.rem = val g.angle.rem ∧
    (g.copyBlade o).angle.grade = o.angle.grade ∧
    (g.angle.blade ≤ o.angle.blade → (g.copyBlade o).angle.blade = o.angle.blade) ∧
    g.angle.blade ≤ (g.copyBlade o).angle.blade := by
  refine ⟨rfl, ?_⟩
  obtain ⟨d, hd⟩ : ∃ d : ℤ, d = (o.angle.blade : ℤ) - (g.angle.blade : ℤ) := ⟨_, rfl⟩
  obtain ⟨k, hn, hkm, hk0⟩ := new_int_two (F := F) d (abs_lt.mpr (by omega))
  have hang : (g.copyBlade o).angle = g.angle.geometricAdd ⟨zero, k⟩ := by rw [← hn, hd]; rfl
  obtain ⟨hbl, _, hv⟩ := add_whole (z := ⟨zero, k⟩) hg fin_zero val_zero
  rw [hang]
  refine ⟨hv, ?_, fun hle => ?_, by rw [hbl]; exact Nat.le_add_right _ _⟩
  · -- `k ≡ d = blade o − blade g` modulo 4
    have : ((g.angle.blade + k : ℕ) : ℤ) % 4 = (o.angle.blade : ℤ) % 4 := by
      rw [Nat.cast_add, Int.add_emod, hkm, ← Int.add_emod, hd, add_sub_cancel]
    unfold grade; rw [hbl]; exact_mod_cast this
  · have := hk0 (by omega)
    rw [hbl]; show g.angle.blade + k = o.angle.blade; omega

/-! ### histories over the fixed-step alphabet -/

/-- the blade-step alphabet of `Geonum` -/
inductive Op | dual | undual | negate | differentiate | integrate | increment | decrement
  deriving DecidableEq, Repr

/-- the per-operation rule of the property -/
def Op.delta : Op → ℕ
  | .dual => 2 | .undual => 2 | .negate => 2 | .differentiate => 1 | .integrate => 3 | .increment => 1 | .decrement => 3

def step (g : Geonum F) : Op → Geonum F
  | .dual => g.dual | .undual => g.undual | .negate => g.negate | .differentiate => g.differentiate
  | .integrate => g.integrate | .increment => g.incrementBlade | .decrement => g.decrementBlade

theorem step_spec {g : Geonum F} (ha : g.angle.Inv) (o : Op) :
    ((step g o).angle.blade = g.angle.blade + o.delta ∧ val (step g o).angle.rem = val g.angle.rem ∧ (step g o).angle.Inv) ∧
    (step g o).mag = g.mag := by
  have t := two_blade_ops ha
  have u := one_three_blade_ops ha
  cases o
  exacts [⟨t.1, rfl⟩, ⟨t.2.1, rfl⟩, ⟨t.2.2.1, rfl⟩, ⟨u.1, rfl⟩, ⟨u.2.2.1, rfl⟩, ⟨u.2.1, rfl⟩, ⟨u.2.2.2, rfl⟩]

/-- (S) **history theorem**: over any sequence of blade-step operations, of any length, the accumulated blade count is
    the start count plus the sum of the per-operation rules; the remainder keeps its value, the magnitude its bits,
    and every intermediate angle is canonical -/
theorem run_blade (ops : List Op) (g : Geonum F) (ha : g.angle.Inv) :
    (ops.foldl step g).angle.blade = g.angle.blade + (ops.map Op.delta).sum ∧
    (ops.foldl step g).angle.Inv ∧ val (ops.foldl step g).angle.rem = val g.angle.rem ∧
    (ops.foldl step g).mag = g.mag := by
  induction ops generalizing g with
  | nil => simp [ha]
  | cons o os ih =>
    obtain ⟨⟨hb, hr, hi⟩, hm⟩ := step_spec ha o
    obtain ⟨ihb, ihi, ihr, ihm⟩ := ih (step g o) hi
    simp only [List.foldl_cons, List.map_cons, List.sum_cons]
    refine ⟨by rw [ihb, hb]; omega, ihi, by rw [ihr, hr], by rw [ihm, hm]⟩

/-- the mixed alphabet of the property: the seven blade steps, and addition / subtraction of an arbitrary angle
    (`*` and `rotate` are spellings of addition, `/` of subtraction: `C03.spellings`, `C04.spellings`) -/
inductive MOp (F : Type) | step (o : Op) | add (c : Angle F) | sub (c : Angle F)

def mstep (g : Geonum F) : MOp F → Geonum F
  | .step o => step g o
  | .add c => ⟨g.mag, g.angle.geometricAdd c⟩
  | .sub c => ⟨g.mag, g.angle.geometricSub c⟩

/-- operands of the mixed history are canonical angles -/
def MOp.Ok : MOp F → Prop
  | .step _ => True | .add c => c.Inv | .sub c => c.Inv

/-- the per-operation rule: which blade contributions the property allows one operation to make.  A step adds its
    fixed count; an addition adds the operand's count plus at most one carry from the remainders; a subtraction
    removes the operand's count, with at most one borrow and at most one carry of the final normalisation -/
def MOp.Allowed : MOp F → ℤ → Prop
  | .step o, k => k = o.delta
  | .add c, k => k = c.blade ∨ k = c.blade + 1
  | .sub c, k => k = -(c.blade : ℤ) - 1 ∨ k = -(c.blade : ℤ) ∨ k = -(c.blade : ℤ) + 1

def MOp.isSub : MOp F → Bool | .sub _ => true | _ => false

/-- one mixed step obeys its rule (the step of `run_mixed`): a subtraction that would go negative is answered forward-only, by
    whole turns -/
theorem mstep_spec {g : Geonum F} (ha : g.angle.Inv) (o : MOp F) (ho : o.Ok) :
    (mstep g o).angle.Inv ∧ (mstep g o).mag = g.mag ∧
    ∃ k : ℤ, o.Allowed k ∧ ((mstep g o).angle.blade : ℤ) % 4 = ((g.angle.blade : ℤ) + k) % 4 ∧
      (g.angle.blade : ℤ) + k ≤ ((mstep g o).angle.blade : ℤ) ∧
      (o.isSub = false → ((mstep g o).angle.blade : ℤ) = (g.angle.blade : ℤ) + k) := by
  cases o with
  | step o =>
    obtain ⟨⟨hb, _, hi⟩, hm⟩ := step_spec ha o
    have hb' : ((mstep g (.step o)).angle.blade : ℤ) = (g.angle.blade : ℤ) + (o.delta : ℤ) := by
      show (((step g o).angle.blade : ℕ) : ℤ) = _
      rw [hb]; push_cast; rfl
    exact ⟨hi, hm, (o.delta : ℤ), rfl, by rw [hb'], by rw [hb'], fun _ => hb'⟩
  | add c =>
    obtain ⟨j, hj, hb⟩ := geometricAdd_carry ha ho
    have hb' : ((mstep g (.add c)).angle.blade : ℤ) = (g.angle.blade : ℤ) + ((c.blade : ℤ) + j) := by
      show (((g.angle.geometricAdd c).blade : ℕ) : ℤ) = _
      rw [hb]; push_cast; ring
    refine ⟨geometricAdd_inv ha ho, rfl, (c.blade : ℤ) + j, ?_, by rw [hb'], by rw [hb'], fun _ => hb'⟩
    interval_cases j
    exacts [Or.inl (add_zero _), Or.inr rfl]
  | sub c =>
    obtain ⟨hi, s, cy, hs, hc, hb, _⟩ := geometricSub_spec ha ho
    have hb' : ((mstep g (.sub c)).angle.blade : ℤ) = (wrap4 ((g.angle.blade : ℤ) - (c.blade : ℤ) + s) : ℤ) + cy := by
      show (((g.angle.geometricSub c).blade : ℕ) : ℤ) = _
      rw [hb]; push_cast; rfl
    have e : (g.angle.blade : ℤ) + (-(c.blade : ℤ) + s + cy) = (g.angle.blade : ℤ) - (c.blade : ℤ) + s + cy := by ring
    rw [hb']
    refine ⟨hi, rfl, -(c.blade : ℤ) + s + cy, ?_, ?_, ?_, fun h => by simp [MOp.isSub] at h⟩
    · rcases hs with rfl | rfl <;> rcases hc with rfl | rfl <;> simp only [MOp.Allowed] <;> omega
    · rw [e]; exact Int.ModEq.add_right _ (wrap4_mod _)
    · rw [e]; exact add_le_add (wrap4_ge _) le_rfl

/-- (S) **mixed-history theorem**: over any sequence, of any length, of blade steps mixed with additions and
    subtractions (hence products and quotients) of canonical angles, every intermediate angle is canonical, the
    magnitude keeps its bits, and there is one allowed contribution per operation such that the accumulated blade
    count is congruent modulo a full turn to the start count plus their sum and never below it — and *equal* to it
    when the sequence contains no subtraction.  So the count is the one predicted by summing the per-operation
    rules; the only freedom is the carry/borrow bit each addition/subtraction is allowed -/
theorem run_mixed (ops : List (MOp F)) (g : Geonum F) (ha : g.angle.Inv) (hops : ∀ o ∈ ops, o.Ok) :
    (ops.foldl mstep g).angle.Inv ∧ (ops.foldl mstep g).mag = g.mag ∧
    ∃ ks : List ℤ, List.Forall₂ MOp.Allowed ops ks ∧
      ((ops.foldl mstep g).angle.blade : ℤ) % 4 = ((g.angle.blade : ℤ) + ks.sum) % 4 ∧
      (g.angle.blade : ℤ) + ks.sum ≤ ((ops.foldl mstep g).angle.blade : ℤ) ∧
      ((∀ o ∈ ops, o.isSub = false) → ((ops.foldl mstep g).angle.blade : ℤ) = (g.angle.blade : ℤ) + ks.sum) := by
  induction ops generalizing g with
  | nil => exact ⟨ha, rfl, [], List.Forall₂.nil, by simp, by simp, fun _ => by simp⟩
  | cons o os ih =>
    obtain ⟨hi, hm, k, hk, hmod, hge, heq⟩ := mstep_spec ha o (hops o (List.mem_cons_self))
    obtain ⟨ihi, ihm, ks, hks, ihmod, ihge, iheq⟩ := ih (mstep g o) hi (fun o' ho' => hops o' (List.mem_cons_of_mem _ ho'))
    refine ⟨ihi, by rw [List.foldl_cons, ihm, hm], k :: ks, List.Forall₂.cons hk hks, ?_⟩
    rw [List.foldl_cons, List.sum_cons, ← add_assoc]
    exact ⟨Int.ModEq.trans ihmod (Int.ModEq.add_right _ hmod), (add_le_add hge le_rfl).trans ihge, fun hns => by
      rw [iheq (fun o' ho' => hns o' (List.mem_cons_of_mem _ ho')), heq (hns o (List.mem_cons_self))]⟩

/-- (S) four derivatives, two duals, or derivative-then-integral return to the same grade and remainder with exactly
    four more blades -/
theorem four_cycle {g : Geonum F} (ha : g.angle.Inv) :
    let d4 := g.differentiate.differentiate.differentiate.differentiate
    let dd := g.dual.dual
    let di := g.differentiate.integrate
    d4.angle.blade = g.angle.blade + 4 ∧ dd.angle.blade = g.angle.blade + 4 ∧ di.angle.blade = g.angle.blade + 4 ∧
    d4.angle.grade = g.angle.grade ∧ dd.angle.grade = g.angle.grade ∧ di.angle.grade = g.angle.grade ∧
    val d4.angle.rem = val g.angle.rem ∧ val dd.angle.rem = val g.angle.rem ∧ val di.angle.rem = val g.angle.rem := by
  have h4 := run_blade [.differentiate, .differentiate, .differentiate, .differentiate] g ha
  have h2 := run_blade [.dual, .dual] g ha
  have h13 := run_blade [.differentiate, .integrate] g ha
  simp only [List.foldl_cons, List.foldl_nil, step, List.map_cons, List.map_nil, List.sum_cons, List.sum_nil,
    Op.delta] at h4 h2 h13
  have hg : ∀ {x : Angle F}, x.blade = g.angle.blade + 4 → x.grade = g.angle.grade := fun h => by
    unfold grade; rw [h]; exact Nat.add_mod_right _ 4
  exact ⟨h4.1, h2.1, h13.1, hg h4.1, hg h2.1, hg h13.1, h4.2.2.1, h2.2.2.1, h13.2.2.1⟩

end S

/-! non-vacuity -/
example {F : Type} [FloatSpec F] : (⟨one, ⟨zero, 9⟩⟩ : Geonum F).angle.Inv := inv_zero 9
example {F : Type} [FloatSpec F] : ∀ o ∈ ([.step .dual, .add ⟨zero, 5⟩, .sub ⟨zero, 11⟩] : List (MOp F)), o.Ok := by
  intro o ho; simp at ho; rcases ho with rfl | rfl | rfl
  · trivial
  · exact inv_zero 5
  · exact inv_zero 11

section R

/-- (R) the mixed-history theorem for histories of binary64 numbers: no hypothesis about the arithmetic is left -/
theorem run_mixed_rounded (ops : List (MOp R64)) (g : Geonum R64) (ha : g.angle.Inv) (hops : ∀ o ∈ ops, o.Ok) :
    (ops.foldl mstep g).angle.Inv ∧ (ops.foldl mstep g).mag = g.mag ∧
    ∃ ks : List ℤ, List.Forall₂ MOp.Allowed ops ks ∧
      ((ops.foldl mstep g).angle.blade : ℤ) % 4 = ((g.angle.blade : ℤ) + ks.sum) % 4 ∧
      (g.angle.blade : ℤ) + ks.sum ≤ ((ops.foldl mstep g).angle.blade : ℤ) ∧
      ((∀ o ∈ ops, o.isSub = false) → ((ops.foldl mstep g).angle.blade : ℤ) = (g.angle.blade : ℤ) + ks.sum) :=
  run_mixed (F := R64) ops g ha hops

end R

end GeonumModel.C07
