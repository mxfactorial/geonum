/-
  C19 — Domain helpers obey their physical scaling and invariance laws.
-/
import GeonumModel.Model.Traits
import GeonumModel.Spec.RoundWitness
import GeonumModel.Lemmas.ExactAdd
import GeonumModel.Lemmas.FloatSumSpecial
import GeonumModel.Props.C10

set_option linter.unusedVariables false

namespace GeonumModel.C19
open GeonumModel FloatLike FloatSpec Angle

section G
variable {F : Type} [FloatLike F]

/-- (G) activations never change the angle (the angle field is returned as is); refraction and propagation return the
    magnitude field as is; dispersion has magnitude `1.0` -/
theorem untouched_fields (g n t x v k w : Geonum F) (act : ML.Activation) :
    (ML.activate g act).angle = g.angle ∧ (Optics.refract g n).mag = g.mag ∧
    (Waves.propagate g t x v).mag = g.mag ∧ (Waves.disperse x t k w).mag = one := by
  refine ⟨?_, rfl, rfl, rfl⟩
  cases act <;> rfl

/-- (G) ReLU passes the magnitude exactly when the computed `cos t` tests positive, and otherwise returns `0.0` -/
theorem relu_law (g : Geonum F) :
    (flt zero (FloatLike.cos g.angle.gradeAngle) = true → (ML.activate g .relu).mag = g.mag) ∧
    (flt zero (FloatLike.cos g.angle.gradeAngle) = false → (ML.activate g .relu).mag = zero) := by
  constructor <;> intro h <;> simp [ML.activate, h]

/-- (G) a negative charge (cosine of the charge angle tests negative) turns the field by a half turn, nothing else -/
theorem field_sign (q q' r pw k : Geonum F) (ang : Angle F) (hm : q.mag = q'.mag)
    (hq : fge (FloatLike.cos q.angle.gradeAngle) zero = true) (hq' : fge (FloatLike.cos q'.angle.gradeAngle) zero = false) :
    (EM.inverseField q r pw ang k).mag = (EM.inverseField q' r pw ang k).mag ∧
    (EM.inverseField q r pw ang k).angle = ang ∧
    (EM.inverseField q' r pw ang k).angle = ang.geometricAdd (Angle.new one one) := by
  simp [EM.inverseField, Geonum.newWithAngle, hq, hq', hm, Angle.add, Angle.addVV]
end G

section S
variable {F : Type} [FloatSpec F]

theorem sigmoid_real {m d o t : ℝ} (hm : 0 < m) (hd1 : 13 / 10 ≤ d) (hd5 : d ≤ 5) (ht : t ≤ m / 16)
    (ho : |o - m / d| ≤ |m / d| / 2 ^ 53 + t) : 0 < o ∧ o < m := by
  have hd0 : 0 < d := lt_of_lt_of_le (by norm_num) hd1
  have hq5 : m / 5 ≤ m / d := div_le_div_of_nonneg_left hm.le hd0 hd5
  have hq1 : m / d ≤ m / (13 / 10) := div_le_div_of_nonneg_left hm.le (by norm_num) hd1
  rw [abs_of_pos (div_pos hm hd0), abs_le] at ho
  constructor <;> linarith [ho.1, ho.2]

/-- (S) sigmoid: the output lies strictly between 0 and a non-zero in-domain input magnitude -/
theorem sigmoid_bounds {g : Geonum F} (hm : Fin g.mag) (hpos : 1 / 10 ^ 100 ≤ val g.mag) (ha : g.angle.Inv) :
    0 < val (ML.activate g .sigmoid).mag ∧ val (ML.activate g .sigmoid).mag < val g.mag := by
  have hmpos : 0 < val g.mag := lt_of_lt_of_le (by positivity) hpos
  obtain ⟨hfc, hc1, _⟩ := cos_spec (gradeAngle_fin ha)
  obtain ⟨hfn, hvn⟩ := fneg_spec hfc
  rw [← abs_neg, ← hvn] at hc1
  obtain ⟨hfe, _, _, _, hb⟩ := exp_spec hfn (hc1.trans (by norm_num))
  obtain ⟨helo, hehi⟩ := hb hc1
  show 0 < val (fdiv g.mag (fadd one _)) ∧ val (fdiv g.mag (fadd one _)) < _
  generalize FloatLike.exp (fneg (FloatLike.cos g.angle.gradeAngle)) = e at hfe helo hehi ⊢
  -- the denominator `d = rnd(1 + e)`, `e ∈ [1/3, 3]`, lies in `[1.3, 5]`
  have h0 : 0 ≤ 1 + val e := by linarith only [helo]
  have h4 : 1 + val e ≤ 4 := by linarith only [hehi]
  obtain ⟨hfd, hvd⟩ := fadd_spec (fin_one (F := F)) hfe (by
    rw [val_one]; exact inRange_of_nonneg_le_1000 h0 (h4.trans (by norm_num)))
  have hc := rnd_close_bound (F := F) h0 h4
  rw [val_one] at hvd
  rw [← hvd, abs_le] at hc
  generalize fadd (one : F) e = d at hfd hc ⊢
  have hd1 : (13:ℝ) / 10 ≤ val d := by linarith only [hc.1, helo]
  have hd5 : val d ≤ 5 := by linarith only [hc.2, hehi]
  have hd0 : 0 < val d := lt_of_lt_of_le (by norm_num) hd1
  -- the quotient is below `|g|`, hence in range
  obtain ⟨_, hvo⟩ := fdiv_spec hm hfd hd0.ne' (inRange_mono (y := val g.mag) (by
    rw [abs_div, abs_of_pos hmpos, abs_of_pos hd0]
    exact div_le_self hmpos.le (le_trans (by norm_num) hd1)) (inRange_val hm))
  have h2 : (1:ℝ) / 10 ^ 300 ≤ 1 / 10 ^ 102 :=
    one_div_le_one_div_of_le (by positivity) (pow_le_pow_right₀ (by norm_num) (by norm_num))
  exact sigmoid_real hmpos hd1 hd5 (by linarith only [tiny_1075_300, h2, hpos]) (hvo ▸ rnd_err (F := F) _)

/-- (S) tanh activation: the output magnitude never exceeds the input magnitude in absolute value -/
theorem tanh_bound {g : Geonum F} (hm : Fin g.mag) (h0 : 0 ≤ val g.mag) (ha : g.angle.Inv) :
    |val (ML.activate g .tanh).mag| ≤ val g.mag :=
  have ht := tanh_spec (cos_spec (gradeAngle_fin ha)).1
  (fmul_unit hm ht.1 ht.2).2.2.trans_eq (abs_of_nonneg h0)

end S

/-! ### E-tier: the physical laws in exact arithmetic -/
section E
open GeonumModel.Exact

/-- (E) **Snell's law**: whenever `|sin t_in| ≤ n`, the refracted direction satisfies `n·sin(t_out) = sin(t_in)` to within
    `n·1e-10` (the slack is the boundary snap of re-encoding the refracted angle) -/
theorem snell_real {g n : Geonum ℝ} (hn : 0 < n.mag) (hdom : |Real.sin (T g.angle)| ≤ n.mag) :
    |n.mag * Real.sin (T (Optics.refract g n).angle) - Real.sin (T g.angle)| ≤ n.mag * (1 / 10 ^ 10) := by
  have hpi := Real.pi_pos
  set q : ℝ := Real.sin (T g.angle) / n.mag with hq
  have hq1 : |q| ≤ 1 := by rw [hq, abs_div, abs_of_pos hn, div_le_one hn]; exact hdom
  set r : ℝ := Real.arcsin q with hr
  have hsin : Real.sin r = q := Real.sin_arcsin (by rw [abs_le] at hq1; exact hq1.1) (by rw [abs_le] at hq1; exact hq1.2)
  have hdef : (Optics.refract g n).angle = Angle.new r Real.pi := by
    show Angle.new (FloatLike.asin (fdiv (FloatLike.sin g.angle.gradeAngle) n.mag)) (FloatLike.pi : ℝ) = _
    have : FloatLike.sin g.angle.gradeAngle = Real.sin (T g.angle) := sin_gradeAngle g.angle
    rw [this]; rfl
  have hrabs : |r| ≤ Real.pi / 2 := by
    rw [abs_le]; exact ⟨Real.neg_pi_div_two_le_arcsin q, Real.arcsin_le_pi_div_two q⟩
  obtain ⟨_, δ, m, hδ, hT⟩ := new_radians_real (x := r) (by
    linarith only [hrabs, Real.pi_lt_four, show (2:ℝ) ≤ 2 ^ 42 by norm_num])
  rw [hdef, hT, Real.sin_add_int_mul_two_pi]
  have hl := sin_lipschitz r δ
  have e : n.mag * Real.sin (r + δ) - Real.sin (T g.angle) = n.mag * (Real.sin (r + δ) - Real.sin r) := by
    rw [hsin, hq]; field_simp
  rw [e, abs_mul, abs_of_pos hn]
  exact mul_le_mul_of_nonneg_left (le_trans hl (le_of_lt hδ)) (le_of_lt hn)

/-- (E) magnification scales the intensity by `1/m²`: scaling the magnification by `s` divides the result's magnitude by `s²` -/
theorem magnify_inverse_square (g m : Geonum ℝ) (s : ℝ) (hs : s ≠ 0) (hm : m.mag ≠ 0) :
    (Optics.magnify g ⟨s * m.mag, m.angle⟩).mag * s ^ 2 = (Optics.magnify g m).mag := by
  show g.mag * ((one : ℝ) / ((s * m.mag) * (s * m.mag))) * s ^ 2 = g.mag * ((one : ℝ) / (m.mag * m.mag))
  rw [one_real]; field_simp

/-- (E) the wire field falls as `1/r`, and the inverse-power field is proportional to the charge -/
theorem wire_and_charge_scaling (r cur perm q dist pw k : Geonum ℝ) (ang : Angle ℝ) (s : ℝ) (hs : s ≠ 0) (hr : r.mag ≠ 0) :
    (EM.wireMagneticField ⟨s * r.mag, r.angle⟩ cur perm).mag * s = (EM.wireMagneticField r cur perm).mag ∧
    (EM.inverseField ⟨s * q.mag, q.angle⟩ dist pw ang k).mag = s * (EM.inverseField q dist pw ang k).mag := by
  have hpi : Real.pi ≠ 0 := Real.pi_ne_zero
  constructor
  · show perm.mag * cur.mag / ((two : ℝ) * (FloatLike.pi : ℝ) * (s * r.mag)) * s = perm.mag * cur.mag / ((two : ℝ) * (FloatLike.pi : ℝ) * r.mag)
    rw [two_real, pi_real]; field_simp
  · show k.mag * (s * q.mag) / FloatLike.powf dist.mag pw.mag = s * (k.mag * q.mag / FloatLike.powf dist.mag pw.mag)
    ring

/-- (E) the inverse-power field scales as `1/rⁿ` in the distance (for positive distances and scale factors) -/
theorem inverse_field_distance_scaling (q dist pw k : Geonum ℝ) (ang : Angle ℝ) (s : ℝ) (hs : 0 < s) (hd : 0 < dist.mag) :
    (EM.inverseField q ⟨s * dist.mag, dist.angle⟩ pw ang k).mag * s ^ pw.mag = (EM.inverseField q dist pw ang k).mag := by
  show k.mag * q.mag / (s * dist.mag) ^ pw.mag * s ^ pw.mag = k.mag * q.mag / dist.mag ^ pw.mag
  rw [Real.mul_rpow (le_of_lt hs) (le_of_lt hd)]
  have h1 : s ^ pw.mag ≠ 0 := ne_of_gt (Real.rpow_pos_of_pos hs _)
  have h2 : dist.mag ^ pw.mag ≠ 0 := ne_of_gt (Real.rpow_pos_of_pos hd _)
  field_simp

/-! #### the quadrilateral area helper against the planar cross product -/

/-- planar cross product of two points -/
def cross (z w : ℂ) : ℝ := z.re * w.im - z.im * w.re

theorem cross_polar (r q s t : ℝ) : cross (polar r s) (polar q t) = r * q * Real.sin (t - s) := by
  simp only [cross, polar]; rw [Real.sin_sub]; ring

/-- `z × w = Im(z̄·w)` -/
theorem abs_cross_le (z w : ℂ) : |cross z w| ≤ ‖z‖ * ‖w‖ := by
  have h := Complex.abs_im_le_norm (starRingEnd ℂ z * w)
  rwa [norm_mul, Complex.norm_conj, Complex.mul_im, Complex.conj_re, Complex.conj_im, neg_mul, ← sub_eq_add_neg] at h

theorem cross_sub_le (x y x' y' : ℂ) : |cross x y - cross x' y'| ≤ ‖x - x'‖ * ‖y‖ + ‖x'‖ * ‖y - y'‖ := by
  have e : cross x y - cross x' y' = cross (x - x') y + cross x' (y - y') := by
    simp only [cross, Complex.sub_re, Complex.sub_im]; ring
  rw [e]
  exact le_trans (abs_add_le _ _) (add_le_add (abs_cross_le _ _) (abs_cross_le _ _))

/-- the reference area: half the absolute planar cross products of the two triangles `P1 P2 P3` and `P1 P3 P4` -/
noncomputable def areaRef (P1 P2 P3 P4 : ℂ) : ℝ := (|cross (P2 - P1) (P3 - P1)| + |cross (P3 - P1) (P4 - P1)|) / 2

theorem areaRef_translate (z P1 P2 P3 P4 : ℂ) : areaRef (z + P1) (z + P2) (z + P3) (z + P4) = areaRef P1 P2 P3 P4 := by
  unfold areaRef
  rw [add_sub_add_left_eq_sub, add_sub_add_left_eq_sub, add_sub_add_left_eq_sub]

/-- a common rotation of the corners: multiplication by a unit complex number -/
theorem areaRef_rotate (w P1 P2 P3 P4 : ℂ) (hw : Complex.normSq w = 1) :
    areaRef (w * P1) (w * P2) (w * P3) (w * P4) = areaRef P1 P2 P3 P4 := by
  have hc : ∀ a b : ℂ, cross (w * a) (w * b) = Complex.normSq w * cross a b := by
    intro a b; simp only [cross, Complex.mul_re, Complex.mul_im, Complex.normSq_apply]; ring
  unfold areaRef
  rw [← mul_sub, ← mul_sub, ← mul_sub, hc, hc, hw, one_mul, one_mul]

/-- the reference area is the shoelace area `½|Σ (xᵢyᵢ₊₁ − xᵢ₊₁yᵢ)|` whenever the two triangles have the same orientation (in
    particular for every convex quadrilateral with its corners listed in order) -/
theorem areaRef_shoelace (P1 P2 P3 P4 : ℂ) (hconv : 0 ≤ cross (P2 - P1) (P3 - P1) * cross (P3 - P1) (P4 - P1)) :
    areaRef P1 P2 P3 P4 =
      |(P1.re * P2.im - P2.re * P1.im) + (P2.re * P3.im - P3.re * P2.im) + (P3.re * P4.im - P4.re * P3.im)
        + (P4.re * P1.im - P1.re * P4.im)| / 2 := by
  have hsum : (P1.re * P2.im - P2.re * P1.im) + (P2.re * P3.im - P3.re * P2.im) + (P3.re * P4.im - P4.re * P3.im)
        + (P4.re * P1.im - P1.re * P4.im) = cross (P2 - P1) (P3 - P1) + cross (P3 - P1) (P4 - P1) := by
    simp only [cross, Complex.sub_re, Complex.sub_im]; ring
  unfold areaRef
  rw [hsum, (abs_add_eq_add_abs_iff _ _).mpr (mul_nonneg_iff.mp hconv)]

/-- (E) **the wedge magnitude of two edges is the planar cross product of the Cartesian edge vectors** `u`, `v`, to within
    `|e||f|·(1e-10+1e-15)` plus the placement error of the edges themselves -/
theorem wedge_is_cross_real {e f : Geonum ℝ} (he : e.angle.Inv) (hf : f.angle.Inv) (h0e : 0 ≤ e.mag) (h0f : 0 ≤ f.mag)
    (u v : ℂ) :
    abs ((e.wedge f).mag - abs (cross u v)) ≤
      e.mag * f.mag * (1 / 10 ^ 10 + 1 / 10 ^ 15) + (‖cart e - u‖ * f.mag + ‖u‖ * ‖cart f - v‖) := by
  obtain ⟨δ, hδ, _, hsin⟩ := cos_sub_gradeAngle he hf
  have hw : (e.wedge f).mag = e.mag * f.mag * |Real.sin (T f.angle - T e.angle + δ)| := by rw [← hsin]; rfl
  have h1 : abs ((e.wedge f).mag - abs (cross (cart e) (cart f))) ≤ e.mag * f.mag * (1 / 10 ^ 10 + 1 / 10 ^ 15) := by
    rw [hw, cart, cart, cross_polar, abs_mul, abs_of_nonneg (mul_nonneg h0e h0f), ← mul_sub, abs_mul,
      abs_of_nonneg (mul_nonneg h0e h0f)]
    apply mul_le_mul_of_nonneg_left _ (mul_nonneg h0e h0f)
    exact le_trans (abs_abs_sub_abs_le_abs_sub _ _) (le_trans (sin_lipschitz _ _) (le_of_lt hδ))
  have h2 := le_trans (abs_abs_sub_abs_le_abs_sub _ _) (cross_sub_le (cart e) (cart f) u v)
  rw [norm_cart h0f] at h2
  linarith only [h1, h2, abs_sub_le (e.wedge f).mag |cross (cart e) (cart f)| |cross u v|]

/-- an edge `p + q.negate`, the code's "vector from q to p", of two corners of length at most `R` -/
theorem edge_real {p q : Geonum ℝ} {R : ℝ} (hp : p.angle.Inv) (hq : q.angle.Inv) (mp : 0 ≤ p.mag ∧ p.mag ≤ R)
    (mq : 0 ≤ q.mag ∧ q.mag ≤ R) (hR : R ≤ 10 ^ 100) (hcb : p.angle.blade + (q.angle.blade + 2) ≤ 2 ^ 39) :
    (p.add q.negate).angle.Inv ∧ 0 ≤ (p.add q.negate).mag ∧ (p.add q.negate).mag ≤ 3 * (1 + R) ∧
    ‖cart (p.add q.negate) - (cart p - cart q)‖ ≤ 2 / 10 ^ 10 * (1 + R) ∧ ‖cart p - cart q‖ ≤ 2 * (1 + R) := by
  have hmp : p.MagDom := ⟨trivial, mp.1, mp.2.trans hR⟩
  have hmq : q.MagDom := ⟨trivial, mq.1, mq.2.trans hR⟩
  have h0 : 0 ≤ (p.add q.negate).mag := (Geonum.sub_mag_ok' hmp hmq hp hq).2
  have hpl : ‖cart (p.add q.negate) - (cart p - cart q)‖ ≤ _ :=
    sub_refines hp hq mp.1 mq.1 (le_trans hcb (by norm_num))
  have hu := norm_sub_le (cart p) (cart q)
  have hm := norm_le_insert' (cart (p.add q.negate)) (cart p - cart q)
  rw [norm_cart mp.1, norm_cart mq.1] at hu
  rw [norm_cart h0] at hm
  refine ⟨Geonum.sub_angle_inv hp hq hmp hmq (by omega), h0, ?_, ?_, ?_⟩ <;>
    linarith only [hm, hu, hpl, mp.1, mp.2, mq.2]

/-- one triangle, in numbers: wedge accuracy plus placement of two edges of length `≤ 3X` placed within `2e-10·X` -/
theorem tri_real {W c m n a b u X : ℝ} (h : |W - c| ≤ m * n * (1 / 10 ^ 10 + 1 / 10 ^ 15) + (a * n + u * b))
    (hn : 0 ≤ n) (hb : 0 ≤ b) (hX : 0 ≤ X) (hm3 : m ≤ 3 * X) (hn3 : n ≤ 3 * X)
    (ha2 : a ≤ 2 / 10 ^ 10 * X) (hb2 : b ≤ 2 / 10 ^ 10 * X) (hu2 : u ≤ 2 * X) :
    |W - c| ≤ 2 / 10 ^ 9 * (X * X) := by
  have a1 : m * n ≤ 3 * X * (3 * X) := mul_le_mul hm3 hn3 hn (by positivity)
  have a2 : a * n ≤ 2 / 10 ^ 10 * X * (3 * X) := mul_le_mul ha2 hn3 hn (by positivity)
  have a3 : u * b ≤ 2 * X * (2 / 10 ^ 10 * X) := mul_le_mul hu2 hb2 hb (by positivity)
  linarith [mul_self_nonneg X]

/-- (E) **the quadrilateral area helper is the two-triangle cross-product area of the Cartesian corners**, to within
    `2e-9·(1+R)²` for corners of length at most `R` — the composed statement: both edges of each triangle through `+`/`negate`
    (every branch of addition), the wedge of the edges, the halving and the final sum -/
theorem area_is_cross_area_real {p1 p2 p3 p4 : Geonum ℝ} {R : ℝ} (hR : R ≤ 10 ^ 100)
    (h1 : p1.angle.Inv) (h2 : p2.angle.Inv) (h3 : p3.angle.Inv) (h4 : p4.angle.Inv)
    (m1 : 0 ≤ p1.mag ∧ p1.mag ≤ R) (m2 : 0 ≤ p2.mag ∧ p2.mag ≤ R) (m3 : 0 ≤ p3.mag ∧ p3.mag ≤ R) (m4 : 0 ≤ p4.mag ∧ p4.mag ≤ R)
    (b2 : p2.angle.blade + (p1.angle.blade + 2) ≤ 2 ^ 39) (b3 : p3.angle.blade + (p1.angle.blade + 2) ≤ 2 ^ 39)
    (b4 : p4.angle.blade + (p1.angle.blade + 2) ≤ 2 ^ 39) :
    |Affine.areaQuadrilateral p1 p2 p3 p4 - areaRef (cart p1) (cart p2) (cart p3) (cart p4)| ≤ 2 / 10 ^ 9 * (1 + R) ^ 2 := by
  have hX : 0 ≤ 1 + R := by linarith [m1.1, m1.2]
  obtain ⟨i2, z2, l2, d2, u2⟩ := edge_real h2 h1 m2 m1 hR b2
  obtain ⟨i3, z3, l3, d3, u3⟩ := edge_real h3 h1 m3 m1 hR b3
  obtain ⟨i4, z4, l4, d4, u4⟩ := edge_real h4 h1 m4 m1 hR b4
  have t1 := tri_real (wedge_is_cross_real i2 i3 z2 z3 _ _) z3 (norm_nonneg _) hX l2 l3 d2 d3 u2
  have t2 := tri_real (wedge_is_cross_real i3 i4 z3 z4 _ _) z4 (norm_nonneg _) hX l3 l4 d3 d4 u3
  have harea : Affine.areaQuadrilateral p1 p2 p3 p4 =
      ((p2.add p1.negate).wedge (p3.add p1.negate)).mag / 2 + ((p3.add p1.negate).wedge (p4.add p1.negate)).mag / 2 := by
    show fadd (fdiv _ two) (fdiv _ two) = _
    rw [r_add, r_div, r_div, two_real]
  rw [harea, areaRef, sq]
  generalize 2 / 10 ^ 9 * ((1 + R) * (1 + R)) = β at t1 t2 ⊢
  rw [abs_le] at t1 t2 ⊢
  constructor <;> linarith only [t1.1, t1.2, t2.1, t2.2]

/-- (E) **area invariance**: two quadrilaterals whose Cartesian corners differ by a common translation `z` and rotation `w`
    (`|w| = 1`) have the same helper area to within twice the helper's tolerance -/
theorem area_invariant_real {p1 p2 p3 p4 q1 q2 q3 q4 : Geonum ℝ} {R : ℝ} (hR : R ≤ 10 ^ 100) (z w : ℂ) (hw : Complex.normSq w = 1)
    (c1 : cart q1 = z + w * cart p1) (c2 : cart q2 = z + w * cart p2) (c3 : cart q3 = z + w * cart p3) (c4 : cart q4 = z + w * cart p4)
    (hp : |Affine.areaQuadrilateral p1 p2 p3 p4 - areaRef (cart p1) (cart p2) (cart p3) (cart p4)| ≤ 2 / 10 ^ 9 * (1 + R) ^ 2)
    (hq : |Affine.areaQuadrilateral q1 q2 q3 q4 - areaRef (cart q1) (cart q2) (cart q3) (cart q4)| ≤ 2 / 10 ^ 9 * (1 + R) ^ 2) :
    |Affine.areaQuadrilateral q1 q2 q3 q4 - Affine.areaQuadrilateral p1 p2 p3 p4| ≤ 4 / 10 ^ 9 * (1 + R) ^ 2 := by
  rw [c1, c2, c3, c4, areaRef_translate, areaRef_rotate _ _ _ _ _ hw] at hq
  exact (abs_sub_le_two hq hp).trans_eq (by ring)

/-- non-vacuity of `area_is_cross_area_real`: the four unit corners on the axes (a square of area 2) meet every hypothesis -/
example : |Affine.areaQuadrilateral (⟨1, ⟨zero, 0⟩⟩ : Geonum ℝ) ⟨1, ⟨zero, 1⟩⟩ ⟨1, ⟨zero, 2⟩⟩ ⟨1, ⟨zero, 3⟩⟩
      - areaRef (cart ⟨1, ⟨zero, 0⟩⟩) (cart ⟨1, ⟨zero, 1⟩⟩) (cart ⟨1, ⟨zero, 2⟩⟩) (cart ⟨1, ⟨zero, 3⟩⟩)| ≤ 2 / 10 ^ 9 * (1 + 1) ^ 2 :=
  area_is_cross_area_real (R := 1) (by norm_num) (inv_zero 0) (inv_zero 1) (inv_zero 2) (inv_zero 3)
    ⟨by norm_num, le_refl _⟩ ⟨by norm_num, le_refl _⟩ ⟨by norm_num, le_refl _⟩ ⟨by norm_num, le_refl _⟩
    (by norm_num) (by norm_num) (by norm_num)

end E

/-! ### B-tier: the quadrilateral area helper in ROUNDED arithmetic -/
section B
variable {F : Type} [FloatSpec F]

/-- the Cartesian components of a number (angles in true radians) -/
noncomputable def cx (g : Geonum F) : ℝ := val g.mag * Real.cos (Angle.Tpi g.angle)
noncomputable def cy (g : Geonum F) : ℝ := val g.mag * Real.sin (Angle.Tpi g.angle)

/-- the Cartesian point of a number as a complex number -/
noncomputable def cpt (g : Geonum F) : ℂ := ⟨cx g, cy g⟩

theorem norm_cpt {g : Geonum F} (h : 0 ≤ val g.mag) : ‖cpt g‖ = val g.mag := by
  rw [show cpt g = Exact.polar (val g.mag) (Angle.Tpi g.angle) from rfl, Exact.norm_polar, abs_of_nonneg h]

theorem comp_bounds {g : Geonum F} (h : 0 ≤ val g.mag) :
    val g.mag ≤ |cx g| + |cy g| ∧ |cx g| ≤ val g.mag ∧ |cy g| ≤ val g.mag := by
  rw [← norm_cpt h]
  exact ⟨Complex.norm_le_abs_re_add_abs_im (cpt g), Complex.abs_re_le_norm (cpt g), Complex.abs_im_le_norm (cpt g)⟩

theorem comp_sub_le {p q : Geonum F} {R : ℝ} (mp : p.MagDom) (mq : q.MagDom) (rp : val p.mag ≤ R) (rq : val q.mag ≤ R) :
    |cx p - cx q| ≤ 2 * R ∧ |cy p - cy q| ≤ 2 * R := by
  obtain ⟨_, hpx, hpy⟩ := comp_bounds mp.2.1
  obtain ⟨_, hqx, hqy⟩ := comp_bounds mq.2.1
  exact ⟨(abs_sub _ _).trans ((add_le_add (hpx.trans rp) (hqx.trans rq)).trans_eq (two_mul R).symm),
    (abs_sub _ _).trans ((add_le_add (hpy.trans rp) (hqy.trans rq)).trans_eq (two_mul R).symm)⟩

/-- the reference area of the four Cartesian corners: half the absolute cross products of the triangles `P1 P2 P3` and `P1 P3 P4` -/
noncomputable def areaRefF (p1 p2 p3 p4 : Geonum F) : ℝ :=
  (|(cx p2 - cx p1) * (cy p3 - cy p1) - (cy p2 - cy p1) * (cx p3 - cx p1)|
    + |(cx p3 - cx p1) * (cy p4 - cy p1) - (cy p3 - cy p1) * (cx p4 - cx p1)|) / 2

theorem areaRefF_eq (p1 p2 p3 p4 : Geonum F) : areaRefF p1 p2 p3 p4 = areaRef (cpt p1) (cpt p2) (cpt p3) (cpt p4) := by
  unfold areaRefF areaRef cross cpt
  simp only [Complex.sub_re, Complex.sub_im]

/-- the placement tolerance of one edge `p − q` for corner lengths up to `R` and blade sums up to `K` (the every-branch C06 bound) -/
noncomputable def edgeTol (F : Type) [FloatSpec F] (R : ℝ) (K : ℕ) : ℝ :=
  2 * R * (2 / 10 ^ 7 + 11 / 10 * (val (e10 : F) + (40 * (K : ℝ) + 170) * (1 / 2 ^ 53))) + 1 / 10 ^ 28 + 2 * val (e10 : F)

theorem edgeTol_lin {R ρ k : ℝ} {K : ℕ} (hR0 : 0 ≤ R) (hK : (K : ℝ) ≤ k)
    (hρ : 2 / 10 ^ 7 + 11 / 10 * (11 / 10 ^ 11 + (40 * k + 170) * (1 / 2 ^ 53)) ≤ ρ) :
    0 ≤ edgeTol F R K ∧ edgeTol F R K ≤ 2 * R * ρ + 1 / 10 ^ 8 := by
  unfold edgeTol
  have he := val_e10_pos (F := F)
  have hes := (val_e10_bounds (F := F)).2
  generalize val (e10 : F) = e at he hes ⊢
  have hs : 2 / 10 ^ 7 + 11 / 10 * (e + (40 * (K : ℝ) + 170) * (1 / 2 ^ 53)) ≤ ρ := by linarith
  have h8 : 1 / 10 ^ 28 + 2 * e ≤ 1 / 10 ^ 8 := by linarith only [hes]
  rw [add_assoc]
  exact ⟨by positivity, add_le_add (mul_le_mul_of_nonneg_left hs (mul_nonneg zero_le_two hR0)) h8⟩

/-- the accuracy of the area helper for corner lengths up to `R` and blade sums up to `K` -/
noncomputable def areaTolF (F : Type) [FloatSpec F] (R : ℝ) (K : ℕ) : ℝ :=
  (4 * R + 2 * edgeTol F R K) * (4 * R + 2 * edgeTol F R K) * (val (e10 : F) + 1 / 10 ^ 14) + 1 / 10 ^ 29
    + 2 * edgeTol F R K * (4 * R + 2 * edgeTol F R K) + 4 * R * edgeTol F R K
    + 3 * (2 * ((4 * R + 2 * edgeTol F R K) * (4 * R + 2 * edgeTol F R K)) + 1) * (1 / 2 ^ 53) + 5 * (1 / 2 ^ 1075)

/-- the formula of `areaTolF` about variables: `δ` the edge tolerance, `e` the snap threshold -/
theorem areaTol_num {R δ e X : ℝ} (hR0 : 0 ≤ R) (hRX : 1 + R ≤ X) (hδ0 : 0 ≤ δ) (hδ : δ ≤ 43 / 10 ^ 8 * X)
    (he : e ≤ 11 / 10 ^ 11) :
    (4 * R + 2 * δ) * (4 * R + 2 * δ) * (e + 1 / 10 ^ 14) + 1 / 10 ^ 29 + 2 * δ * (4 * R + 2 * δ) + 4 * R * δ
      + 3 * (2 * ((4 * R + 2 * δ) * (4 * R + 2 * δ)) + 1) * (1 / 2 ^ 53) + 5 * (1 / 2 ^ 1075) ≤ 6 / 10 ^ 6 * (X * X) := by
  have hX1 : 1 ≤ X := (le_add_of_nonneg_right hR0).trans hRX
  have hX0 : 0 ≤ X := zero_le_one.trans hX1
  have hM0 : 0 ≤ 4 * R + 2 * δ := add_nonneg (mul_nonneg zero_le_four hR0) (mul_nonneg zero_le_two hδ0)
  have hMX : 4 * R + 2 * δ ≤ 41 / 10 * X := by linarith
  generalize 4 * R + 2 * δ = M at hM0 hMX ⊢
  -- every product against its bound in `X·X`; what remains is linear in the products
  have hXX : 1 ≤ X * X := one_le_mul_of_one_le_of_one_le hX1 hX1
  have hMM := mul_le_mul hMX hMX hM0 (hM0.trans hMX)
  have hδM := mul_le_mul hδ hMX hM0 (hδ0.trans hδ)
  have hRδ := mul_le_mul ((le_add_of_nonneg_left zero_le_one).trans hRX) hδ hδ0 hX0
  have hMe := mul_le_mul_of_nonneg_left he (mul_self_nonneg M)
  have hτ := tiny_1075
  generalize (1:ℝ) / 2 ^ 1075 = τ at hτ ⊢
  linarith

/-- the tolerance in numbers: for blade sums up to `1e6` it is at most `6e-6·(1+R)²` -/
theorem areaTolF_small {R : ℝ} {K : ℕ} (hR0 : 0 ≤ R) (hK : K ≤ 10 ^ 6) : areaTolF F R K ≤ 6 / 10 ^ 6 * ((1 + R) * (1 + R)) := by
  obtain ⟨hδ0, hδ⟩ := edgeTol_lin (F := F) (ρ := 21 / 10 ^ 8) (k := 10 ^ 6) hR0 (by exact_mod_cast hK) (by norm_num)
  exact areaTol_num hR0 le_rfl hδ0 (by linarith) (val_e10_bounds (F := F)).2

/-- **the wedge magnitude of two numbers is the planar cross product of their Cartesian components, in rounded arithmetic** -/
theorem wedge_is_cross_float {e f : Geonum F} (he : e.angle.Inv) (hf : f.angle.Inv) (hme : e.MagDom) (hmf : f.MagDom) :
    abs (val (e.wedge f).mag - abs (cx e * cy f - cy e * cx f)) ≤ val e.mag * val f.mag * (val (e10 : F) + 1 / 10 ^ 14) + 1 / 10 ^ 29 := by
  rw [show cx e * cy f - cy e * cx f = _ from cross_polar (val e.mag) (val f.mag) (Angle.Tpi e.angle) (Angle.Tpi f.angle),
    abs_mul, abs_of_nonneg (mul_nonneg hme.2.1 hmf.2.1)]
  exact C10.wedge_mag_float he hf hme hmf

/-- **one edge in rounded arithmetic**: `p − q` is canonical, in the magnitude domain, placed at the Cartesian difference of the corners
    within `edgeTol`, and of length at most `4R + 2·edgeTol` -/
theorem edge_float {p q : Geonum F} {R : ℝ} {K : ℕ} (hp : p.angle.Inv) (hq : q.angle.Inv) (hmp : p.MagDom) (hmq : q.MagDom)
    (hpR : val p.mag ≤ R) (hqR : val q.mag ≤ R) (hR : R ≤ 10 ^ 98) (hcb : p.angle.blade + q.angle.blade + 2 ≤ K) (hK : K ≤ 2 ^ 39) :
    (p.sub q).angle.Inv ∧ (p.sub q).MagDom ∧ |cx (p.sub q) - (cx p - cx q)| ≤ edgeTol F R K ∧
    |cy (p.sub q) - (cy p - cy q)| ≤ edgeTol F R K ∧ val (p.sub q).mag ≤ 4 * R + 2 * edgeTol F R K := by
  obtain ⟨_, hδ1⟩ := edgeTol_lin (F := F) (ρ := 1 / 2) (k := 2 ^ 39) (hmp.2.1.trans hpR) (by exact_mod_cast hK) (by norm_num)
  obtain ⟨hfin, h0⟩ := Geonum.sub_mag_ok' hmp hmq hp hq
  obtain ⟨s1, s2⟩ := prod_norm_le.mp (Geonum.sub_cartF_every_branch hp hq hmp hmq (hcb.trans hK))
  -- the per-pair bound is below the uniform one
  have hbound : _ + 2 * val (e10 : F) ≤ edgeTol F R K :=
    add_le_add (Geonum.genTol_mono (add_nonneg hmp.2.1 hmq.2.1) ((add_le_add hpR hqR).trans_eq (two_mul R).symm)
      (Nat.cast_nonneg _) (Nat.cast_le.mpr hcb)) le_rfl
  have c1 : |cx (p.sub q) - (cx p - cx q)| ≤ edgeTol F R K := by rw [sub_sub_eq_add_sub]; exact s1.trans hbound
  have c2 : |cy (p.sub q) - (cy p - cy q)| ≤ edgeTol F R K := by rw [sub_sub_eq_add_sub]; exact s2.trans hbound
  -- the edge length from its components
  obtain ⟨dx, dy⟩ := comp_sub_le hmp hmq hpR hqR
  have hx := (abs_sub_abs_le_abs_sub _ _).trans c1
  have hy := (abs_sub_abs_le_abs_sub _ _).trans c2
  have hlen : val (p.sub q).mag ≤ 4 * R + 2 * edgeTol F R K := by linarith only [(comp_bounds (g := p.sub q) h0).1, hx, hy, dx, dy]
  refine ⟨Geonum.sub_angle_inv hp hq hmp hmq (hcb.trans hK), ⟨hfin, h0, ?_⟩, c1, c2, hlen⟩
  linarith only [hlen, hδ1, hR, show (6:ℝ) * 10 ^ 98 + 2 ≤ 10 ^ 100 by norm_num]

/-- perturbation of a planar cross product -/
theorem cross_pert (a b c d a' b' c' d' : ℝ) :
    |(a * d - b * c) - (a' * d' - b' * c')| ≤ |a - a'| * |d| + |a'| * |d - d'| + (|b - b'| * |c| + |b'| * |c - c'|) := by
  have e : (a * d - b * c) - (a' * d' - b' * c') = ((a - a') * d + a' * (d - d')) - ((b - b') * c + b' * (c - c')) := by ring
  rw [e]
  calc |((a - a') * d + a' * (d - d')) - ((b - b') * c + b' * (c - c'))|
      ≤ |(a - a') * d + a' * (d - d')| + |(b - b') * c + b' * (c - c')| := abs_sub _ _
    _ ≤ (|(a - a') * d| + |a' * (d - d')|) + (|(b - b') * c| + |b' * (c - c')|) := add_le_add (abs_add_le _ _) (abs_add_le _ _)
    _ = _ := by rw [abs_mul, abs_mul, abs_mul, abs_mul]

theorem cross_pert_le {a b c d a' b' c' d' δ M R : ℝ} (ha : |a - a'| ≤ δ) (hb : |b - b'| ≤ δ) (hc : |c - c'| ≤ δ)
    (hd : |d - d'| ≤ δ) (hcM : |c| ≤ M) (hdM : |d| ≤ M) (haR : |a'| ≤ 2 * R) (hbR : |b'| ≤ 2 * R) :
    |(a * d - b * c) - (a' * d' - b' * c')| ≤ 2 * δ * M + 4 * R * δ := by
  have hδ0 := (abs_nonneg _).trans ha
  have hR0 := (abs_nonneg _).trans haR
  have q1 := mul_le_mul ha hdM (abs_nonneg _) hδ0
  have q2 := mul_le_mul haR hd (abs_nonneg _) hR0
  have q3 := mul_le_mul hb hcM (abs_nonneg _) hδ0
  have q4 := mul_le_mul hbR hc (abs_nonneg _) hR0
  linarith [cross_pert a b c d a' b' c' d']

/-- one triangle, in numbers: a wedge magnitude `W` within `m·ω + 1e-29` of `|c|`, `|c| ≤ m ≤ N`, against a cross product `c'`
    within `P` of `c` -/
theorem tri_float_real {W c c' m N ω P : ℝ} (hw : |W - abs c| ≤ m * ω + 1 / 10 ^ 29) (hp : |c - c'| ≤ P) (hc : |c| ≤ m)
    (hm : m ≤ N) (hω0 : 0 ≤ ω) (hω1 : ω ≤ 1) : |W - abs c'| ≤ N * ω + 1 / 10 ^ 29 + P ∧ |W| ≤ 2 * N + 1 := by
  have h1 := mul_le_mul_of_nonneg_right hm hω0
  have h2 := mul_le_mul_of_nonneg_left hω1 ((abs_nonneg c).trans (hc.trans hm))
  have h3 := abs_sub_le W (abs c) (abs c')
  have h4 := (abs_abs_sub_abs_le_abs_sub c c').trans hp
  have h5 := abs_sub_abs_le_abs_sub W (abs c)
  rw [abs_abs] at h5
  constructor <;> linarith

/-- one triangle: the wedge of two edges against the cross product of the true corner differences -/
theorem triangle_float {e f : Geonum F} {R M δ : ℝ} {xe ye xf yf : ℝ} (he : e.angle.Inv) (hf : f.angle.Inv)
    (hme : e.MagDom) (hmf : f.MagDom) (hle : val e.mag ≤ M) (hlf : val f.mag ≤ M)
    (dex : |cx e - xe| ≤ δ) (dey : |cy e - ye| ≤ δ) (dfx : |cx f - xf| ≤ δ) (dfy : |cy f - yf| ≤ δ)
    (hxe : |xe| ≤ 2 * R) (hye : |ye| ≤ 2 * R) :
    abs (val (e.wedge f).mag - abs (xe * yf - ye * xf))
      ≤ M * M * (val (e10 : F) + 1 / 10 ^ 14) + 1 / 10 ^ 29 + 2 * δ * M + 4 * R * δ ∧
    |val (e.wedge f).mag| ≤ 2 * (M * M) + 1 := by
  obtain ⟨_, hfx, hfy⟩ := comp_bounds hmf.2.1
  have hcr : |cx e * cy f - cy e * cx f| ≤ val e.mag * val f.mag := by
    have := abs_cross_le (cpt e) (cpt f); rwa [norm_cpt hme.2.1, norm_cpt hmf.2.1] at this
  have hω1 : val (e10 : F) + 1 / 10 ^ 14 ≤ 1 := by linarith only [val_e10_small (F := F)]
  rw [add_assoc]
  exact tri_float_real (wedge_is_cross_float he hf hme hmf)
    (cross_pert_le dex dey dfx dfy (hfx.trans hlf) (hfy.trans hlf) hxe hye) hcr
    (mul_le_mul hle hlf hmf.2.1 (hme.2.1.trans hle)) (add_nonneg val_e10_pos.le (by positivity)) hω1

theorem half_wedge_dom {e f : Geonum F} (he : e.angle.Inv) (hf : f.angle.Inv) (hme : e.MagDom) (hmf : f.MagDom) :
    Fin (fdiv (e.wedge f).mag two) ∧ val (fdiv (e.wedge f).mag two) = rnd (F := F) (val (e.wedge f).mag / 2) ∧
    |val (fdiv (e.wedge f).mag two)| ≤ 10 ^ 201 + 1 := by
  obtain ⟨hfs, hs1, _⟩ := sin_spec (gradeAngle_fin (geometricSub_inv hf he))
  obtain ⟨hfa, hva⟩ := fabs_spec hfs
  obtain ⟨hfp, hp0, hp1⟩ := mul_dom hme.1 hmf.1 hme.2.1 hmf.2.1 hme.2.2 hmf.2.2
  obtain ⟨hfw, -, hw⟩ := fmul_unit hfp hfa (by rw [hva, abs_abs]; exact hs1)
  have hW : |val (e.wedge f).mag| ≤ 10 ^ 201 := hw.trans (by rwa [abs_of_nonneg hp0])
  obtain ⟨hft, hv⟩ := fdiv_two hfw
  have hr := abs_rnd_le_two_mul (F := F) (val (e.wedge f).mag / 2)
  rw [abs_div, abs_two] at hr
  exact ⟨hft, hv, hv ▸ hr.trans (by linarith only [hW])⟩

/-- halving two wedge magnitudes and adding them, with every rounding accounted for -/
theorem area_assemble {w1 w2 t1 t2 A c1 c2 E Wb ε τ : ℝ} (hε0 : 0 ≤ ε) (hε1 : ε ≤ 1) (hτ0 : 0 ≤ τ) (hWb : 0 ≤ Wb)
    (h1 : |w1 - c1| ≤ E) (h2 : |w2 - c2| ≤ E) (hw1 : |w1| ≤ Wb) (hw2 : |w2| ≤ Wb)
    (ht1 : |t1 - w1 / 2| ≤ |w1 / 2| * ε + τ) (ht2 : |t2 - w2 / 2| ≤ |w2 / 2| * ε + τ)
    (hA : |A - (t1 + t2)| ≤ |t1 + t2| * ε + τ) :
    |A - (c1 + c2) / 2| ≤ E + 3 * Wb * ε + 5 * τ := by
  have e : ∀ w : ℝ, |w / 2| = |w| / 2 := fun w => by rw [abs_div, abs_two]
  rw [e] at ht1 ht2
  have p1 := mul_le_mul_of_nonneg_right hw1 hε0
  have p2 := mul_le_mul_of_nonneg_right hw2 hε0
  have hWε := mul_le_mul_of_nonneg_left hε1 hWb
  have hτε := mul_le_mul_of_nonneg_left hε1 hτ0
  rw [abs_le] at h1 h2 ht1 ht2
  have hs : |t1 + t2| ≤ 2 * Wb + 2 * τ := by
    rw [abs_le] at hw1 hw2 ⊢; constructor <;> linarith
  have hsε := mul_le_mul_of_nonneg_right hs hε0
  rw [abs_le] at hA ⊢
  constructor <;> linarith

/-- (B) **the quadrilateral area helper in ROUNDED arithmetic is the two-triangle cross-product area of the Cartesian corners**, to within
    `areaTolF R K` for corners of length at most `R ≤ 1e40` and blade sums at most `K ≤ 2^39` — the composed statement: each edge through
    `negate` and `+` (every branch), the wedge of the edges (libm sine of the rounded angle difference), both halvings and the final sum, all
    roundings accounted for.  `areaTolF R K ≈ R²·(5e-6 + 6.5e-2·K/2^39)` (`areaTolF_small`: at most `6e-6·(1+R)²` for `K ≤ 1e6`): dominated by the
    `√ε`-of-scale placement error of an edge under cancellation, and for huge blade counts by the f64 product `cb·π/2` -/
theorem area_float {p1 p2 p3 p4 : Geonum F} {R : ℝ} {K : ℕ}
    (h1 : p1.angle.Inv) (h2 : p2.angle.Inv) (h3 : p3.angle.Inv) (h4 : p4.angle.Inv)
    (m1 : p1.MagDom) (m2 : p2.MagDom) (m3 : p3.MagDom) (m4 : p4.MagDom)
    (r1 : val p1.mag ≤ R) (r2 : val p2.mag ≤ R) (r3 : val p3.mag ≤ R) (r4 : val p4.mag ≤ R) (hR : R ≤ 10 ^ 40)
    (b2 : p2.angle.blade + p1.angle.blade + 2 ≤ K) (b3 : p3.angle.blade + p1.angle.blade + 2 ≤ K)
    (b4 : p4.angle.blade + p1.angle.blade + 2 ≤ K) (hK : K ≤ 2 ^ 39) :
    |val (Affine.areaQuadrilateral p1 p2 p3 p4) - areaRefF p1 p2 p3 p4| ≤ areaTolF F R K := by
  have hR98 : R ≤ 10 ^ 98 := hR.trans (by norm_num)
  obtain ⟨i2, d2, x2, y2, l2⟩ := edge_float h2 h1 m2 m1 r2 r1 hR98 b2 hK
  obtain ⟨i3, d3, x3, y3, l3⟩ := edge_float h3 h1 m3 m1 r3 r1 hR98 b3 hK
  obtain ⟨i4, d4, x4, y4, l4⟩ := edge_float h4 h1 m4 m1 r4 r1 hR98 b4 hK
  obtain ⟨cx2, cy2⟩ := comp_sub_le m2 m1 r2 r1
  obtain ⟨cx3, cy3⟩ := comp_sub_le m3 m1 r3 r1
  obtain ⟨t1e, t1w⟩ := triangle_float i2 i3 d2 d3 l2 l3 x2 y2 x3 y3 cx2 cy2
  obtain ⟨t2e, t2w⟩ := triangle_float i3 i4 d3 d4 l3 l4 x3 y3 x4 y4 cx3 cy3
  -- the two halvings and the sum
  obtain ⟨hft1, hv1, hb1⟩ := half_wedge_dom i2 i3 d2 d3
  obtain ⟨hft2, hv2, hb2⟩ := half_wedge_dom i3 i4 d3 d4
  obtain ⟨_, hva, _⟩ := fadd_bd hft1 hft2 hb1 hb2 (by norm_num)
  exact area_assemble (ε := 1 / 2 ^ 53) (τ := 1 / 2 ^ 1075) (by positivity) (by norm_num) (by positivity)
    (add_nonneg (mul_nonneg zero_le_two (mul_self_nonneg _)) zero_le_one)
    t1e t2e t1w t2w (hv1 ▸ rnd_rel _) (hv2 ▸ rnd_rel _) (hva ▸ rnd_rel _)

/-- (B) **area invariance in rounded arithmetic**: two quadrilaterals whose Cartesian corners differ by a common translation `z` and rotation
    `w` (`|w| = 1`) have the same helper area to within twice the helper's tolerance; with `areaRef_shoelace` the common value is the
    shoelace area whenever the two triangles have the same orientation -/
theorem area_invariant_float {p1 p2 p3 p4 q1 q2 q3 q4 : Geonum F} {R : ℝ} {K : ℕ} (z w : ℂ) (hw : Complex.normSq w = 1)
    (c1 : cpt q1 = z + w * cpt p1) (c2 : cpt q2 = z + w * cpt p2) (c3 : cpt q3 = z + w * cpt p3) (c4 : cpt q4 = z + w * cpt p4)
    (hp : |val (Affine.areaQuadrilateral p1 p2 p3 p4) - areaRefF p1 p2 p3 p4| ≤ areaTolF F R K)
    (hq : |val (Affine.areaQuadrilateral q1 q2 q3 q4) - areaRefF q1 q2 q3 q4| ≤ areaTolF F R K) :
    |val (Affine.areaQuadrilateral q1 q2 q3 q4) - val (Affine.areaQuadrilateral p1 p2 p3 p4)| ≤ 2 * areaTolF F R K := by
  rw [areaRefF_eq] at hp hq
  rw [c1, c2, c3, c4, areaRef_translate, areaRef_rotate _ _ _ _ _ hw] at hq
  exact abs_sub_le_two hq hp

example {F : Type} [FloatSpec F] : (⟨one, ⟨zero, 1⟩⟩ : Geonum F).angle.Inv := inv_zero 1

/-- non-vacuity of `area_float`: the four unit corners on the axes (a square of area 2), in any conforming arithmetic -/
example : |val (Affine.areaQuadrilateral (⟨one, ⟨zero, 0⟩⟩ : Geonum F) ⟨one, ⟨zero, 1⟩⟩ ⟨one, ⟨zero, 2⟩⟩ ⟨one, ⟨zero, 3⟩⟩)
      - areaRefF (⟨one, ⟨zero, 0⟩⟩ : Geonum F) ⟨one, ⟨zero, 1⟩⟩ ⟨one, ⟨zero, 2⟩⟩ ⟨one, ⟨zero, 3⟩⟩| ≤ areaTolF F 1 5 := by
  have hm : ∀ k : ℕ, (⟨one, ⟨zero, k⟩⟩ : Geonum F).MagDom := fun k =>
    ⟨fin_one, by show 0 ≤ val (one : F); rw [val_one]; norm_num, by
      show val (one : F) ≤ 10 ^ 100; rw [val_one]; exact one_le_pow₀ (by norm_num)⟩
  have hr : ∀ k : ℕ, val (⟨one, ⟨zero, k⟩⟩ : Geonum F).mag ≤ 1 := fun k => by show val (one : F) ≤ 1; rw [val_one]
  exact area_float (inv_zero 0) (inv_zero 1) (inv_zero 2) (inv_zero 3) (hm 0) (hm 1) (hm 2) (hm 3) (hr 0) (hr 1) (hr 2) (hr 3)
    (by norm_num) (by norm_num) (by norm_num) (by norm_num) (by norm_num)

end B

/-! ### R — on the arithmetic that really rounds (`R64`) -/
section R

/-- (R) sigmoid strictly inside `(0, |g|)` and tanh bounded by `|g|`, for every binary64 number in the domain -/
theorem activations_rounded {g : Geonum R64} (hpos : 1 / 10 ^ 100 ≤ g.mag.v) (hle : g.mag.v ≤ 10 ^ 100) (ha : g.angle.Inv) :
    (0 < (ML.activate g .sigmoid).mag.v ∧ (ML.activate g .sigmoid).mag.v < g.mag.v) ∧
    |(ML.activate g .tanh).mag.v| ≤ g.mag.v :=
  ⟨sigmoid_bounds (F := R64) trivial hpos ha,
   tanh_bound (F := R64) trivial (le_trans (by positivity) hpos) ha⟩

/-- (R) the quadrilateral area helper against the two-triangle cross-product area, for all binary64 corners up to `1e40` with blade sums up to
    `1e6`: within `6e-6·(1+R)²` -/
theorem area_rounded {p1 p2 p3 p4 : Geonum R64} {R : ℝ} {K : ℕ}
    (h1 : p1.angle.Inv) (h2 : p2.angle.Inv) (h3 : p3.angle.Inv) (h4 : p4.angle.Inv)
    (m1 : p1.MagDom) (m2 : p2.MagDom) (m3 : p3.MagDom) (m4 : p4.MagDom)
    (r1 : p1.mag.v ≤ R) (r2 : p2.mag.v ≤ R) (r3 : p3.mag.v ≤ R) (r4 : p4.mag.v ≤ R) (hR : R ≤ 10 ^ 40)
    (b2 : p2.angle.blade + p1.angle.blade + 2 ≤ K) (b3 : p3.angle.blade + p1.angle.blade + 2 ≤ K)
    (b4 : p4.angle.blade + p1.angle.blade + 2 ≤ K) (hK : K ≤ 10 ^ 6) :
    |(Affine.areaQuadrilateral p1 p2 p3 p4).v - areaRefF p1 p2 p3 p4| ≤ 6 / 10 ^ 6 * ((1 + R) * (1 + R)) :=
  le_trans (area_float (F := R64) h1 h2 h3 h4 m1 m2 m3 m4 r1 r2 r3 r4 hR b2 b3 b4 (le_trans hK (by norm_num)))
    (areaTolF_small (F := R64) (le_trans m1.2.1 r1) hK)

end R

end GeonumModel.C19
