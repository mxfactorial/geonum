/-
  C05 — Products: magnitudes multiply, angles add; inverse, division, scaling.
-/
import GeonumModel.Spec.RoundWitness
import GeonumModel.Lemmas.Exact
import GeonumModel.Lemmas.GeonumMag

namespace GeonumModel.C05
open GeonumModel FloatLike FloatSpec Angle

section G
variable {F : Type} [FloatLike F]

/-- (G) the product has the (one) float product of the magnitudes and the angle sum; all four ownership forms agree -/
theorem mul_spec (a b : Geonum F) :
    (a.mul b).mag = fmul a.mag b.mag ∧ (a.mul b).angle = a.angle.geometricAdd b.angle ∧
    a.mulRR b = a.mul b ∧ a.mulRV b = a.mul b ∧ a.mulVR b = a.mul b :=
  ⟨rfl, rfl, rfl, rfl, rfl⟩

/-- (G) every spelling of division is multiplication by the inverse, and panics exactly when the inverse does -/
theorem div_is_mul_inv (a b : Geonum F) :
    a.div b = b.inv.map (fun i => a.mul i) ∧ a.divVV b = a.div b ∧ a.divRR b = a.div b ∧
    a.divRV b = a.div b ∧ a.divVR b = a.div b :=
  ⟨rfl, rfl, rfl, rfl, rfl⟩

/-- (G) the inverse panics exactly when the magnitude compares equal to zero; otherwise it is the reciprocal magnitude at
    the negated angle -/
theorem inv_spec (g : Geonum F) :
    (g.inv = none ↔ feq g.mag zero = true) ∧
    (feq g.mag zero = false → g.inv = some ⟨fdiv one g.mag, g.angle.negate⟩) := by
  unfold Geonum.inv
  constructor
  · by_cases h : feq g.mag zero = true <;> simp [h]
  · intro h; simp [h]

/-- (G) normalisation panics exactly on a zero magnitude; otherwise unit magnitude with the angle field untouched -/
theorem normalize_spec (g : Geonum F) :
    (g.normalize = none ↔ feq g.mag zero = true) ∧
    (feq g.mag zero = false → g.normalize = some ⟨one, g.angle⟩) := by
  unfold Geonum.normalize
  constructor
  · by_cases h : feq g.mag zero = true <;> simp [h]
  · intro h; simp [h]

/-- (G) multiplying or adding a bare angle only rotates: the magnitude field is returned untouched, in all four forms -/
theorem angle_ops_only_rotate (x : Angle F) (g : Geonum F) :
    (Geonum.angleMul x g).mag = g.mag ∧ (Geonum.angleMul x g).angle = x.geometricAdd g.angle ∧
    Geonum.angleMulR x g = Geonum.angleMul x g ∧ Geonum.angleAdd x g = Geonum.angleMul x g ∧
    Geonum.angleAddR x g = Geonum.angleMul x g :=
  ⟨rfl, rfl, rfl, rfl, rfl⟩

/-- (G) scaling is the product with the scalar constructor, whose magnitude is `|factor|`; a power raises the magnitude -/
theorem scale_pow_spec (g : Geonum F) (f n : F) :
    g.scale f = g.mul (Geonum.scalar f) ∧ (g.scale f).mag = fmul g.mag (fabs f) ∧
    (g.pow n).mag = FloatLike.powf g.mag n ∧ (g.pow n).angle = g.angle.geometricAdd (Angle.new n one) :=
  ⟨rfl, rfl, rfl, rfl⟩
end G

section S
variable {F : Type} [FloatSpec F]

/-- (S) multiplication is commutative as a structure equality — bit-for-bit on binary64 -/
theorem mul_comm {a b : Geonum F} (hma : Fin a.mag) (hmb : Fin b.mag) (hra : Fin a.angle.rem) (hrb : Fin b.angle.rem) :
    a.mul b = b.mul a := by
  unfold Geonum.mul
  simp only [Angle.add, addVV]
  rw [fmul_comm hma hmb, geometricAdd_comm hra hrb]

/-- (S) the product of canonical numbers is canonical, with blade counts adding up to one carry -/
theorem mul_angle {a b : Geonum F} (ha : a.angle.Inv) (hb : b.angle.Inv) :
    (a.mul b).angle.Inv ∧ ((a.mul b).angle.blade = a.angle.blade + b.angle.blade ∨
      (a.mul b).angle.blade = a.angle.blade + b.angle.blade + 1) :=
  ⟨geometricAdd_inv ha hb, geometricAdd_blade ha hb⟩

/-- (S) `[1, 0]` is a right identity: same magnitude value, same blade, same remainder value -/
theorem mul_one {g : Geonum F} (hm : Fin g.mag) (ha : g.angle.Inv) :
    val (g.mul (Geonum.new one zero one)).mag = val g.mag ∧
    (g.mul (Geonum.new one zero one)).angle.blade = g.angle.blade ∧
    val (g.mul (Geonum.new one zero one)).angle.rem = val g.angle.rem := by
  refine ⟨?_, (add_equiv_whole ha new_zero_one).1, (add_equiv_whole ha new_zero_one).2.2⟩
  show val (fmul g.mag one) = _
  rw [(fmul_spec hm (fin_one (F := F)) (by rw [val_one, _root_.mul_one]; exact inRange_val hm)).2, val_one, _root_.mul_one,
    rnd_val hm]

/-- (S) the inverse of a non-zero canonical number: reciprocal magnitude (one rounding), exactly two more blades,
    remainder value untouched -/
theorem inv_of_nonzero {g : Geonum F} (hm : Fin g.mag) (h0 : val g.mag ≠ 0) (ha : g.angle.Inv)
    (hr : InRange (F := F) (1 / val g.mag)) :
    ∃ i, g.inv = some i ∧ val i.mag = rnd (F := F) (1 / val g.mag) ∧ i.angle.blade = g.angle.blade + 2 ∧
      val i.angle.rem = val g.angle.rem ∧ i.angle.Inv := by
  have hne : feq g.mag zero = false := by
    rw [Bool.eq_false_iff]; intro h
    rw [feq_spec hm fin_zero, val_zero] at h; exact h0 h
  refine ⟨⟨fdiv one g.mag, g.angle.negate⟩, ((inv_spec g).2 hne), ?_, ?_⟩
  · have := (fdiv_spec (fin_one (F := F)) hm h0 (by rw [val_one]; exact hr)).2
    rw [this, val_one]
  · exact ⟨(negate_spec ha).1, (negate_spec ha).2.2, negate_inv ha⟩

/-- (S) scaling by a real: magnitude `rnd(m·|f|)`, a half turn (exactly two blades) added iff the factor is negative,
    none for a non-negative factor (including `±0`); remainder value untouched -/
theorem scale_spec {g : Geonum F} {f : F} (hm : Fin g.mag) (hf : Fin f) (ha : g.angle.Inv)
    (hr : InRange (F := F) (val g.mag * |val f|)) :
    val (g.scale f).mag = rnd (F := F) (val g.mag * |val f|) ∧
    (0 ≤ val f → (g.scale f).angle.blade = g.angle.blade) ∧
    (val f < 0 → (g.scale f).angle.blade = g.angle.blade + 2) ∧
    val (g.scale f).angle.rem = val g.angle.rem := by
  obtain ⟨hfa, hva, h0, h2⟩ := Geonum.scalar_spec hf
  have hmag : val (g.scale f).mag = rnd (F := F) (val g.mag * |val f|) := by
    show val (fmul g.mag (Geonum.scalar f).mag) = _
    rw [(fmul_spec hm hfa (by rw [hva]; exact hr)).2, hva]
  refine ⟨hmag, fun h => (add_equiv_whole ha (h0 h)).1, fun h => (add_equiv_whole ha (h2 h)).1, ?_⟩
  rcases le_or_gt 0 (val f) with h | h
  · exact (add_equiv_whole ha (h0 h)).2.2
  · exact (add_equiv_whole ha (h2 h)).2.2

/-- (S/B) **the angle of a product in rounded arithmetic**: the float totals add, up to one snap and one rounding, and the magnitude is
    the one rounded product — so products are associative and commutative in their totals up to that slack, for every blade history -/
theorem mul_total_float {a b : Geonum F} (ha : a.angle.Inv) (hb : b.angle.Inv) :
    (a.mul b).mag = fmul a.mag b.mag ∧
    ∃ δ : ℝ, |δ| < val (e10 : F) + 1 / 10 ^ 15 ∧ Angle.Tq (a.mul b).angle = Angle.Tq a.angle + Angle.Tq b.angle + δ :=
  Geonum.mul_total_float ha hb

end S

section E
open GeonumModel.Exact

/-- (E) multiplication is associative: magnitudes exactly, totals of the angles to within two tolerances each way -/
theorem mul_assoc_real {a b c : Geonum ℝ} (ha : a.angle.Inv) (hb : b.angle.Inv) (hc : c.angle.Inv) :
    ((a.mul b).mul c).mag = (a.mul (b.mul c)).mag ∧
    |T ((a.mul b).mul c).angle - T (a.mul (b.mul c)).angle| < 4 * (1 / 10 ^ 10 + 1 / 10 ^ 15) := by
  refine ⟨mul_assoc a.mag b.mag c.mag, ?_⟩
  obtain ⟨δ1, h1, e1⟩ := add_total_real ha hb
  obtain ⟨δ2, h2, e2⟩ := add_total_real (geometricAdd_inv ha hb) hc
  obtain ⟨δ3, h3, e3⟩ := add_total_real hb hc
  obtain ⟨δ4, h4, e4⟩ := add_total_real ha (geometricAdd_inv hb hc)
  show |T ((a.angle.geometricAdd b.angle).geometricAdd c.angle) - T (a.angle.geometricAdd (b.angle.geometricAdd c.angle))| < _
  rw [e2, e1, e4, e3, show T a.angle + T b.angle + δ1 + T c.angle + δ2 - (T a.angle + (T b.angle + T c.angle + δ3) + δ4)
    = δ1 + δ2 - (δ3 + δ4) by ring]
  have := (abs_sub _ _).trans (add_le_add (abs_add_le δ1 δ2) (abs_add_le δ3 δ4))
  linarith only [this, h1, h2, h3, h4]

/-- (E) the product multiplies magnitudes and adds totals: `T(ab) = T a + T b + δ` -/
theorem mul_total_real {a b : Geonum ℝ} (ha : a.angle.Inv) (hb : b.angle.Inv) :
    (a.mul b).mag = a.mag * b.mag ∧ ∃ δ : ℝ, |δ| < 1 / 10 ^ 10 + 1 / 10 ^ 15 ∧ T (a.mul b).angle = T a.angle + T b.angle + δ :=
  ⟨rfl, add_total_real ha hb⟩

end E

/-! PARTIAL: the rounding of `powf` (libm) is not bounded. -/

example {F : Type} [FloatSpec F] : (Geonum.new (one : F) zero one).angle.Inv :=
  Geonum.base_zero_one.1


/-! ### R — on the arithmetic that really rounds (`R64`: round-to-nearest on the binary64 grid, correctly rounded libm) -/
section R

/-- (R) totals of a product add, for all binary64 numbers with canonical angles -/
theorem mul_total_rounded {a b : Geonum R64} (ha : a.angle.Inv) (hb : b.angle.Inv) :
    (a.mul b).mag = fmul a.mag b.mag ∧
    ∃ δ : ℝ, |δ| < (e10 : R64).v + 1 / 10 ^ 15 ∧ Angle.Tq (a.mul b).angle = Angle.Tq a.angle + Angle.Tq b.angle + δ :=
  mul_total_float (F := R64) ha hb

end R

end GeonumModel.C05
