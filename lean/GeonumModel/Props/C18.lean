/-
  C18 — Domain helpers equal their documented closed forms.

  The model of each helper is transcribed from the code; each theorem states the documented formula in terms of core
  operations.  They are G-tier (any arithmetic) and mostly definitional by design: here "the implementation is what its
  documentation says" is carried by the correspondence (every helper is an op of the tie); the theorems pin down which
  closed form that is.
-/
import GeonumModel.Model.Traits

namespace GeonumModel.C18
open GeonumModel FloatLike

variable {F : Type} [FloatLike F]

/-- affine: translate is addition; shear rotates; area is the sum of the two triangle wedge areas on the edges from `p1` -/
theorem affine_forms (p1 p2 p3 p4 d : Geonum F) (a : Angle F) :
    Affine.translate p1 d = p1.add d ∧ Affine.shear p1 a = p1.rotate a ∧
    Affine.areaQuadrilateral p1 p2 p3 p4 =
      fadd (fdiv ((p2.add p1.negate).wedge (p3.add p1.negate)).mag two)
           (fdiv ((p3.add p1.negate).wedge (p4.add p1.negate)).mag two) := ⟨rfl, rfl, rfl⟩

/-- projection: view is a rotation by the encoded path; compose is the product -/
theorem projection_forms (g o : Geonum F) (path : Angle F) :
    Projection.view g path = g.rotate path ∧ Projection.compose g o = g.mul o := ⟨rfl, rfl⟩

/-- optics: refraction, optical transfer, ABCD, magnification and aberration formulas -/
theorem optics_forms (g n focal wl a b c d : Geonum F) (terms : List (Geonum F)) :
    Optics.refract g n = ⟨g.mag, Angle.new (FloatLike.asin (fdiv (FloatLike.sin g.angle.gradeAngle) n.mag)) (pi : F)⟩ ∧
    Optics.otf g focal wl = ⟨fdiv g.mag (fmul wl.mag focal.mag), g.angle.geometricAdd (Angle.new one two)⟩ ∧
    Optics.abcdTransform g a b c d =
      ⟨fadd (fmul a.mag g.mag) (fmul b.mag g.angle.gradeAngle),
       Angle.new (fadd (fmul c.mag g.mag) (fmul d.mag g.angle.gradeAngle)) pi⟩ ∧
    Optics.magnify g n = ⟨fmul g.mag (fdiv one (fmul n.mag n.mag)),
       Angle.new (fdiv (fneg (FloatLike.sin g.angle.gradeAngle)) n.mag) pi⟩ ∧
    Optics.aberrate g terms = ⟨g.mag, terms.foldl Optics.aberrateStep g.angle⟩ ∧
    (∀ (ph : Angle F) (t : Geonum F), Optics.aberrateStep ph t =
      ph.geometricAdd (Angle.new (fmul t.mag (FloatLike.cos (fmul (FloatLike.sin t.angle.gradeAngle) three))) pi)) :=
  ⟨rfl, rfl, rfl, rfl, rfl, fun _ _ => rfl⟩

/-- electromagnetics: the Poynting vector is the wedge divided by μ0; inverse-power field; wire field and potential;
    spherical wave; the electric field is the inverse-square field at angle π with Coulomb's constant -/
theorem em_forms (e b q r pw k cur perm t wn sp : Geonum F) (ang : Angle F) :
    EM.poyntingVector e b = ⟨fdiv (e.wedge b).mag EM.vacuumPermeability, (e.wedge b).angle⟩ ∧
    (EM.inverseField q r pw ang k).mag = fdiv (fmul k.mag q.mag) (FloatLike.powf r.mag pw.mag) ∧
    (fge (FloatLike.cos q.angle.gradeAngle) zero = true → (EM.inverseField q r pw ang k).angle = ang) ∧
    (fge (FloatLike.cos q.angle.gradeAngle) zero = false →
        (EM.inverseField q r pw ang k).angle = ang.geometricAdd (Angle.new one one)) ∧
    EM.electricField q r = EM.inverseField q r (Geonum.scalar two) (Angle.new one one) EM.coulombK ∧
    EM.electricPotential q r = (q.mul EM.coulombK).divVV r ∧
    EM.wireVectorPotential r cur perm =
      ⟨fdiv (fmul (fmul perm.mag cur.mag) (FloatLike.ln r.mag)) (fmul two pi), Angle.new one two⟩ ∧
    EM.wireMagneticField r cur perm =
      ⟨fdiv (fmul perm.mag cur.mag) (fmul (fmul two pi) r.mag), Angle.new zero one⟩ ∧
    (EM.sphericalWavePotential r t wn sp).mag =
      fabs (fdiv (FloatLike.cos (fsub (fmul wn.mag r.mag) (fmul (fmul wn.mag sp.mag) t.mag))) r.mag) := by
  refine ⟨rfl, rfl, ?_, ?_, rfl, rfl, rfl, rfl, rfl⟩ <;> intro h <;>
    simp [EM.inverseField, Geonum.newWithAngle, h, Angle.add, Angle.addVV]

/-- waves: propagate / disperse rotate by the angle of `x − v·t` / `k·x − ω·t`; frequency and wavenumber are
    `|a − b|` per interval at `Angle::new(1, 2)` (π/2) -/
theorem waves_forms (g t x v k w o iv : Geonum F) :
    Waves.propagate g t x v = ⟨g.mag, g.angle.geometricAdd (x.sub (v.mul t)).angle⟩ ∧
    Waves.disperse x t k w = ⟨one, ((k.mul x).sub (w.mul t)).angle⟩ ∧
    Waves.frequency g o iv = ⟨fdiv (g.sub o).mag iv.mag, Angle.new one two⟩ ∧
    Waves.wavenumber g o iv = Waves.frequency g o iv := ⟨rfl, rfl, rfl, rfl⟩

/-- machine learning: forward pass `|x||w| + |b|` at the summed angle; activations scale the magnitude by relu / sigmoid /
    tanh of `cos t`; regression and perceptron formulas -/
theorem ml_forms (g w b inp : Geonum F) (lr err cov var : F) :
    ML.forwardPass g w b = ⟨fadd (fmul g.mag w.mag) b.mag, g.angle.geometricAdd w.angle⟩ ∧
    ML.activate g .relu = ⟨if flt zero (FloatLike.cos g.angle.gradeAngle) then g.mag else zero, g.angle⟩ ∧
    ML.activate g .sigmoid = ⟨fdiv g.mag (fadd one (FloatLike.exp (fneg (FloatLike.cos g.angle.gradeAngle)))), g.angle⟩ ∧
    ML.activate g .tanh = ⟨fmul g.mag (FloatLike.tanh (FloatLike.cos g.angle.gradeAngle)), g.angle⟩ ∧
    ML.activate g .identity = g ∧
    ML.regressionFrom cov var = ⟨sqrt (fdiv (fmul cov cov) var), Angle.new (FloatLike.atan2 cov var) pi⟩ ∧
    (ML.perceptronUpdate g lr err inp).mag = fadd g.mag (fmul (fmul lr err) inp.mag) :=
  ⟨rfl, rfl, rfl, rfl, rfl, rfl, rfl⟩

/-- the physical constants are the documented expressions -/
theorem constants :
    (EM.speedOfLight : F) = FloatLike.ofNat 300000000 ∧
    (EM.vacuumPermeability : F) = fmul (fmul four pi) (FloatLike.ofSci 1 true 7) ∧
    (EM.vacuumPermittivity : F) = fdiv one (fmul (fmul EM.vacuumPermeability EM.speedOfLight) EM.speedOfLight) ∧
    (EM.vacuumImpedance : F) = fmul EM.vacuumPermeability EM.speedOfLight := ⟨rfl, rfl, rfl, rfl⟩

example (g : Geonum F) : ML.activate g .identity = g := rfl

end GeonumModel.C18
