/-
  C17 — GeoCollection operations are exact filters and element-wise maps.  Mostly G-tier: true for every arithmetic, so the
  tie transfers them to the machine with no assumption on the float operations; the clauses that speak about magnitudes as numbers
  (strictly above the threshold, maximal magnitude, the sum) are S-tier / R-tier at the end.
-/
import GeonumModel.Model.Collection
import GeonumModel.Spec.RoundWitness
import GeonumModel.Lemmas.AngleInv
import GeonumModel.Lemmas.RndErr

set_option linter.unusedSectionVars false

namespace GeonumModel.C17
open GeonumModel FloatLike GeoCollection

variable {F : Type} [FloatLike F]

/-- (G) truncation keeps exactly the members whose magnitude tests strictly above the threshold, order preserved -/
theorem truncate_spec (c : GeoCollection F) (t : F) :
    (c.truncate t).objects = c.objects.filter (fun g => flt t g.mag) ∧
    (c.truncate t).objects.Sublist c.objects ∧
    (∀ g, g ∈ (c.truncate t).objects ↔ g ∈ c.objects ∧ flt t g.mag = true) :=
  ⟨rfl, List.filter_sublist, fun g => by simp [truncate, fromVec, List.mem_filter]⟩

/-- (G) cone selection keeps exactly the members satisfying the coded predicate, order preserved; a member or an axis whose
    magnitude product compares equal to zero is never selected -/
theorem selectCone_spec (c : GeoCollection F) (dir : Geonum F) (h : F) :
    (c.selectCone dir h).objects = c.objects.filter (inCone dir h) ∧
    (c.selectCone dir h).objects.Sublist c.objects ∧
    (∀ g, feq (fmul g.mag dir.mag) zero = true → inCone dir h g = false) := by
  refine ⟨rfl, List.filter_sublist, ?_⟩
  intro g hz; unfold inCone; simp [hz]

/-- (G) the cone predicate is: unsigned angle `acos(clamp(signed cosine))` at most the half-angle -/
theorem inCone_nonzero (dir g : Geonum F) (h : F) (hz : feq (fmul g.mag dir.mag) zero = false) :
    inCone dir h g =
      fle (FloatLike.acos (FloatLike.clamp
        (fmul (fdiv (g.dot dir).mag (fmul g.mag dir.mag)) ((g.dot dir).angle.project (Angle.new zero one)))
        (fneg one) one)) h := by
  unfold inCone; simp [hz]

/-- (G) scale-all and rotate-all apply the scalar operation to every member, preserving length and order -/
theorem maps_spec (c : GeoCollection F) (f : F) (r : Angle F) :
    (c.scaleAll f).objects = c.objects.map (fun g => g.scale f) ∧ (c.scaleAll f).len = c.len ∧
    (c.rotateAll r).objects = c.objects.map (fun g => g.rotate r) ∧ (c.rotateAll r).len = c.len := by
  refine ⟨rfl, ?_, rfl, ?_⟩ <;> simp [scaleAll, rotateAll, fromVec, len]

/-- (G) total magnitude is the left fold of `+` over the member magnitudes from `-0.0` (what `Iterator::sum` does) -/
theorem totalMagnitude_spec (c : GeoCollection F) :
    c.totalMagnitude = (c.objects.map (·.mag)).foldl fadd (fneg zero) := rfl

theorem foldl_maxStep_none (l : List (Geonum F)) : l.foldl maxStep none = none := by
  induction l with
  | nil => rfl
  | cons x xs ih => simpa [List.foldl, maxStep] using ih

theorem maxStep_cases (a x : Geonum F) :
    maxStep (some a) x = none ∨ maxStep (some a) x = some a ∨ maxStep (some a) x = some x := by
  simp only [maxStep]
  split <;> simp

theorem foldl_maxStep_mem (l : List (Geonum F)) (a r : Geonum F) (h : l.foldl maxStep (some a) = some r) :
    r = a ∨ r ∈ l := by
  induction l generalizing a with
  | nil => exact Or.inl (Option.some.inj h).symm
  | cons x xs ih =>
    rw [List.foldl_cons] at h
    rcases maxStep_cases a x with e | e | e <;> rw [e] at h
    · rw [foldl_maxStep_none] at h; cases h
    · exact (ih a h).imp_right (List.mem_cons_of_mem _)
    · exact Or.inr ((ih x h).elim (· ▸ List.mem_cons_self) (List.mem_cons_of_mem _))

/-- (G) dominant is `None` exactly on the empty collection, and otherwise (when no comparison panics) a member -/
theorem dominant_spec (c : GeoCollection F) :
    (c.dominant = some none ↔ c.objects = []) ∧
    (∀ g, c.dominant = some (some g) → g ∈ c.objects) := by
  unfold dominant
  cases c.objects with
  | nil => simp
  | cons x xs => simpa using fun g h => foldl_maxStep_mem xs x g h

/-- (G) conversion, indexing and iteration are the member sequence itself -/
theorem conversions (v : List (Geonum F)) (i : Nat) :
    (fromVec v).objects = v ∧ (fromIter v).objects = v ∧ (fromVec v).iter = v ∧ (fromVec v).intoIter = v ∧
    (fromVec v).intoIterRef = v ∧ (fromVec v).asRefVec = v ∧ (fromVec v).asRefSlice = v ∧
    (fromVec v).index i = v[i]? ∧ (fromVec v).len = v.length ∧ (new : GeoCollection F).objects = [] ∧
    (GeoCollection.default : GeoCollection F).objects = [] :=
  ⟨rfl, rfl, rfl, rfl, rfl, rfl, rfl, rfl, rfl, rfl, rfl⟩

example : (GeoCollection.fromVec ([] : List (Geonum Nat))).objects = [] := rfl

/-! ### S-tier: the clauses about magnitudes as numbers -/
section S
open FloatSpec
variable {F : Type} [FloatSpec F]

/-- (S) truncation in terms of values: a member with a finite magnitude is kept exactly when its magnitude is strictly above the
    (finite) threshold -/
theorem truncate_float (c : GeoCollection F) (t : F) (ht : Fin t) (g : Geonum F) (hg : Fin g.mag) :
    g ∈ (c.truncate t).objects ↔ g ∈ c.objects ∧ val t < val g.mag := by
  rw [(truncate_spec c t).2.2 g, flt_spec ht hg]

/-- `max_by` keeps the later element on a tie -/
theorem maxStep_some {a x : Geonum F} (ha : Fin a.mag) (hx : Fin x.mag) :
    maxStep (some a) x = some (if val x.mag < val a.mag then a else x) := by
  unfold maxStep
  simp only [Angle.fcmp_eq_compare ha hx]
  split_ifs with h
  · rw [compare_gt_iff_gt.mpr h]
  · rcases (not_lt.mp h).lt_or_eq with h' | h'
    · rw [compare_lt_iff_lt.mpr h']
    · rw [compare_eq_iff_eq.mpr h']

theorem foldl_maxStep_max (l : List (Geonum F)) (a : Geonum F) (ha : Fin a.mag) (hl : ∀ g ∈ l, Fin g.mag) :
    ∃ r, l.foldl maxStep (some a) = some r ∧ Fin r.mag ∧ val a.mag ≤ val r.mag ∧ ∀ g ∈ l, val g.mag ≤ val r.mag := by
  induction l generalizing a with
  | nil => exact ⟨a, rfl, ha, le_refl _, fun g hg => by cases hg⟩
  | cons x xs ih =>
    have hx : Fin x.mag := hl x List.mem_cons_self
    rw [List.foldl_cons, maxStep_some ha hx]
    -- the new accumulator `m` is finite and dominates both `a` and `x`
    obtain ⟨m, hm, hfm, ham, hxm⟩ : ∃ m, (if val x.mag < val a.mag then a else x) = m ∧ Fin m.mag ∧
        val a.mag ≤ val m.mag ∧ val x.mag ≤ val m.mag := by
      split_ifs with h
      · exact ⟨a, rfl, ha, le_refl _, le_of_lt h⟩
      · exact ⟨x, rfl, hx, not_lt.mp h, le_refl _⟩
    rw [hm]
    obtain ⟨r, hr, hfr, hmr, hall⟩ := ih m hfm (fun g hg => hl g (List.mem_cons_of_mem _ hg))
    exact ⟨r, hr, hfr, le_trans ham hmr, List.forall_mem_cons.mpr ⟨le_trans hxm hmr, hall⟩⟩

/-- (S) **dominant returns a member of maximal magnitude**: on a non-empty collection whose magnitudes are finite `dominant` does not
    panic and returns a member whose magnitude is at least every member's magnitude -/
theorem dominant_max_float (c : GeoCollection F) (hne : c.objects ≠ []) (hfin : ∀ g ∈ c.objects, Fin g.mag) :
    ∃ r, c.dominant = some (some r) ∧ r ∈ c.objects ∧ ∀ g ∈ c.objects, val g.mag ≤ val r.mag := by
  cases hc : c.objects with
  | nil => exact absurd hc hne
  | cons x xs =>
    rw [hc] at hfin
    obtain ⟨r, hr, _, hxr, hall⟩ := foldl_maxStep_max xs x (hfin x List.mem_cons_self)
      (fun g hg => hfin g (List.mem_cons_of_mem _ hg))
    have hd : c.dominant = some (some r) := by unfold dominant; rw [hc]; simp only; rw [hr]; rfl
    exact ⟨r, hd, hc ▸ (dominant_spec c).2 r hd, List.forall_mem_cons.mpr ⟨hxr, hall⟩⟩

/-- a left fold of float additions over finite non-negative terms, started from an accumulator that already carries the error of
    `k` additions: after `n` more the error is that of `k + n` additions, `2(k+n)·ε` relative and `2(k+n)·τ` absolute -/
theorem foldl_sum_float (ε τ : ℝ) (hε0 : 0 ≤ ε) (hτ0 : 0 ≤ τ) (h20 : 2 * 2 ^ 20 * ε ≤ 1) (hτ1 : 2 * 2 ^ 20 * τ ≤ 1)
    (hrnd : ∀ z : ℝ, |rnd (F := F) z - z| ≤ |z| * ε + τ)
    (l : List F) (acc : F) (k : ℕ) (s : ℝ) (hacc : Fin acc) (hs : 0 ≤ s)
    (herr : |val acc - s| ≤ |s| * (2 * (k : ℝ) * ε) + 2 * (k : ℝ) * τ)
    (hl : ∀ x ∈ l, Fin x ∧ 0 ≤ val x) (hk : k + l.length ≤ 2 ^ 20) (hsum : s + (l.map val).sum ≤ 10 ^ 200) :
    Fin (l.foldl fadd acc) ∧
    |val (l.foldl fadd acc) - (s + (l.map val).sum)|
      ≤ 2 * ((k + l.length : ℕ) : ℝ) * ε * (s + (l.map val).sum) + 2 * ((k + l.length : ℕ) : ℝ) * τ := by
  induction l generalizing acc k s with
  | nil =>
    rw [abs_of_nonneg hs] at herr
    exact ⟨hacc, by simpa [mul_comm s] using herr⟩
  | cons x xs ih =>
    obtain ⟨hfx, hx0⟩ := hl x List.mem_cons_self
    have hl' : ∀ y ∈ xs, Fin y ∧ 0 ≤ val y := fun y hy => hl y (List.mem_cons_of_mem _ hy)
    have hrest : 0 ≤ (xs.map val).sum := List.sum_nonneg (fun y hy => by
      obtain ⟨z, hz, rfl⟩ := List.mem_map.mp hy
      exact (hl' z hz).2)
    rw [List.length_cons] at hk
    rw [List.foldl_cons, List.map_cons, List.sum_cons, List.length_cons, ← add_assoc, ← Nat.add_assoc,
      Nat.add_right_comm]
    rw [List.map_cons, List.sum_cons, ← add_assoc] at hsum
    have hkr : (k : ℝ) ≤ 2 ^ 20 := by exact_mod_cast (by omega : k ≤ 2 ^ 20)
    have hk2 : 2 * (k : ℝ) ≤ 2 * 2 ^ 20 := mul_le_mul_of_nonneg_left hkr two_pos.le
    have hK0 : 0 ≤ 2 * (k : ℝ) * ε := mul_nonneg (mul_nonneg two_pos.le (Nat.cast_nonneg k)) hε0
    have hK1 : 2 * (k : ℝ) * ε ≤ 1 := (mul_le_mul_of_nonneg_right hk2 hε0).trans h20
    have hc1 : 2 * (k : ℝ) * τ ≤ 1 := (mul_le_mul_of_nonneg_right hk2 hτ0).trans hτ1
    have hcε : 2 * (k : ℝ) * τ * ε ≤ τ :=
      (mul_right_comm _ τ ε).trans_le ((mul_le_mul_of_nonneg_right hK1 hτ0).trans_eq (one_mul τ))
    -- the partial sum stays in range
    have hsx : s + val x ≤ 10 ^ 200 := by linarith
    obtain ⟨hf, hv⟩ := fadd_spec hacc hfx (inRange_of_le ((sum_bound_real hs hx0 hK1 hc1 herr).trans
      ((add_le_add (mul_le_mul_of_nonneg_left hsx two_pos.le) le_rfl).trans (by norm_num))))
    have hstep := sum_step_real hs hx0 hK0 hK1 hε0 hcε herr (hv ▸ hrnd _)
    refine ih (fadd acc x) (k + 1) (s + val x) hf (add_nonneg hs hx0) ?_ hl' (by omega) hsum
    rw [abs_of_nonneg (add_nonneg hs hx0)]
    exact hstep.trans_eq (by push_cast; ring)

/-- (S) **total magnitude is the sum of the member magnitudes, in rounded arithmetic**: for up to `2^20` members with finite non-negative
    magnitudes summing to at most `1e200`, the returned value is finite and within `2n·2⁻⁵³` relative (plus `2n·2⁻¹⁰⁷⁵`) of the exact sum -/
theorem totalMagnitude_float (c : GeoCollection F) (hl : ∀ g ∈ c.objects, Fin g.mag ∧ 0 ≤ val g.mag)
    (hn : c.objects.length ≤ 2 ^ 20) (hsum : (c.objects.map (fun g => val g.mag)).sum ≤ 10 ^ 200) :
    Fin c.totalMagnitude ∧
    |val c.totalMagnitude - (c.objects.map (fun g => val g.mag)).sum|
      ≤ 2 * (c.objects.length : ℝ) * (1 / 2 ^ 53) * (c.objects.map (fun g => val g.mag)).sum
        + 2 * (c.objects.length : ℝ) * (1 / 2 ^ 1075) := by
  rw [totalMagnitude_spec]
  obtain ⟨hfz, hvz⟩ := fneg_spec (fin_zero (F := F))
  rw [val_zero, neg_zero] at hvz
  have hτ1 : 2 * 2 ^ 20 * ((1:ℝ) / 2 ^ 1075) ≤ 1 :=
    (mul_le_mul_of_nonneg_left (one_div_le_one_div_of_le (by positivity)
      (pow_le_pow_right₀ (by norm_num) (by norm_num : 53 ≤ 1075))) (by norm_num)).trans (by norm_num)
  have h := foldl_sum_float (F := F) (1 / 2 ^ 53) (1 / 2 ^ 1075) (by positivity) (by positivity) (by norm_num) hτ1 rnd_rel
    (c.objects.map (·.mag)) (fneg zero) 0 0 hfz le_rfl (by rw [hvz]; simp)
    (fun x hx => by obtain ⟨g, hg, rfl⟩ := List.mem_map.mp hx; exact hl g hg)
    (by rw [List.length_map, Nat.zero_add]; exact hn) (by rw [List.map_map, zero_add]; exact hsum)
  rwa [List.map_map, zero_add, Nat.zero_add, List.length_map] at h

end S

/-! ### R — on the arithmetic that really rounds (`R64`): every collection of binary64 numbers -/
section R

theorem dominant_max_rounded (c : GeoCollection R64) (hne : c.objects ≠ []) :
    ∃ r, c.dominant = some (some r) ∧ r ∈ c.objects ∧ ∀ g ∈ c.objects, g.mag.v ≤ r.mag.v :=
  dominant_max_float (F := R64) c hne (fun _ _ => trivial)

theorem totalMagnitude_rounded (c : GeoCollection R64) (hl : ∀ g ∈ c.objects, 0 ≤ g.mag.v)
    (hn : c.objects.length ≤ 2 ^ 20) (hsum : (c.objects.map (fun g => g.mag.v)).sum ≤ 10 ^ 200) :
    |c.totalMagnitude.v - (c.objects.map (fun g => g.mag.v)).sum|
      ≤ 2 * (c.objects.length : ℝ) * (1 / 2 ^ 53) * (c.objects.map (fun g => g.mag.v)).sum
        + 2 * (c.objects.length : ℝ) * (1 / 2 ^ 1075) :=
  (totalMagnitude_float (F := R64) c (fun g hg => ⟨trivial, hl g hg⟩) hn hsum).2

end R

end GeonumModel.C17
