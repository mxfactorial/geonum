/-
  C13 — Distance is a metric consistent with subtraction; inversion is an involution.
-/
import GeonumModel.Spec.RoundWitness
import GeonumModel.Lemmas.ExactAdd
import GeonumModel.Lemmas.FloatMetric
import GeonumModel.Lemmas.FloatSumSpecial

namespace GeonumModel.C13
open GeonumModel FloatLike FloatSpec Angle Geonum

section G
variable {F : Type} [FloatLike F]

/-- (G) `mag_diff` is `| |a| − |b| |` (one subtraction, one absolute value) -/
theorem magDiff_def (a b : Geonum F) : a.magDiff b = fabs (fsub a.mag b.mag) := rfl

/-- (G) circle inversion panics exactly when the offset `p − c` has a magnitude that compares equal to zero; otherwise it is
    `c + [r²/|p−c|, angle(p−c)]` -/
theorem invertCircle_spec (p c : Geonum F) (r : F) :
    (p.invertCircle c r = none ↔ feq (p.sub c).mag zero = true) ∧
    (feq (p.sub c).mag zero = false →
      p.invertCircle c r = some (c.add ⟨fdiv (fmul r r) (p.sub c).mag, (p.sub c).angle⟩)) := by
  unfold Geonum.invertCircle
  constructor
  · by_cases h : feq (p.sub c).mag zero = true <;> simp [h]
  · intro h; simp [h, Geonum.newWithAngle]

/-- (G) the distance is `scalar(√max(d², 0))` with `d² = (a² + b²) − ((2a)b)·cos(grade_angle(tb − ta))` -/
theorem distanceTo_def (a b : Geonum F) :
    a.distanceTo b = Geonum.scalar (sqrt (fmax
      (fsub (fadd (fmul a.mag a.mag) (fmul b.mag b.mag))
            (fmul (fmul (fmul two a.mag) b.mag) (FloatLike.cos (b.angle.sub a.angle).gradeAngle))) zero)) := rfl
end G

section S
variable {F : Type} [FloatSpec F]

/-- (S) **never NaN, never negative, at angle exactly 0**: whenever the squared distance is a finite number (always, for
    in-domain magnitudes), the clamp makes the square root's argument non-negative, so the distance is finite, non-negative,
    and `scalar` places it on blade 0 with a remainder of value 0.  Relies on fix 05011a7. -/
theorem distanceTo_ok (a b : Geonum F)
    (hd2 : Fin (fsub (fadd (fmul a.mag a.mag) (fmul b.mag b.mag))
            (fmul (fmul (fmul two a.mag) b.mag) (FloatLike.cos (b.angle.sub a.angle).gradeAngle)))) :
    Fin (a.distanceTo b).mag ∧ 0 ≤ val (a.distanceTo b).mag ∧
    (a.distanceTo b).angle.blade = 0 ∧ val (a.distanceTo b).angle.rem = 0 :=
  have h := Geonum.scalar_sqrt_clamp hd2
  ⟨h.1, (rnd_nonneg (Real.sqrt_nonneg _)).trans_eq h.2.1.symm, h.2.2⟩

/-- (S) the offset of a point from itself has magnitude exactly `0.0`, so inverting the circle's own centre panics -/
theorem invertCircle_centre_panics {c : Geonum F} (hm : Fin c.mag) (ha : c.angle.Inv) (r : F) :
    c.invertCircle c r = none := by
  rw [(invertCircle_spec c c r).1, Geonum.sub_self_eq hm ha]
  exact (feq_spec fin_zero fin_zero).mpr rfl

end S

/-! ### E-tier: exact arithmetic — the distance refines the Euclidean metric on the Cartesian points -/
section E
open GeonumModel.Exact

/-- the Cartesian point of a geometric number, as a complex number -/
noncomputable def cartC (g : Geonum ℝ) : ℂ := ⟨g.mag * Real.cos (T g.angle), g.mag * Real.sin (T g.angle)⟩

theorem euclid_sq (a b : Geonum ℝ) :
    ‖cartC a - cartC b‖ ^ 2 = a.mag ^ 2 + b.mag ^ 2 - 2 * a.mag * b.mag * Real.cos (T b.angle - T a.angle) := by
  rw [Complex.sq_norm]; exact (normSq_polar_sub a.mag b.mag (T a.angle) (T b.angle)).trans (by ring)

/-- (E) the squared distance is `|a|² + |b|² − 2|a||b|cos(T b − T a + δ)` with the snap slack `δ`; the clamp at zero is inactive -/
theorem distance_sq_real {a b : Geonum ℝ} (ha : a.angle.Inv) (hb : b.angle.Inv) :
    ∃ δ : ℝ, |δ| < 1 / 10 ^ 10 + 1 / 10 ^ 15 ∧
      (a.distanceTo b).mag ^ 2 = a.mag ^ 2 + b.mag ^ 2 - 2 * a.mag * b.mag * Real.cos (T b.angle - T a.angle + δ) := by
  obtain ⟨δ, hδ, hcos, _⟩ := cos_sub_gradeAngle ha hb
  refine ⟨δ, hδ, ?_⟩
  rw [← hcos]
  set c := Real.cos (b.angle.geometricSub a.angle).gradeAngle with hc
  have hc1 : |c| ≤ 1 := Real.abs_cos_le_one _
  set d2 : ℝ := a.mag * a.mag + b.mag * b.mag - 2 * a.mag * b.mag * c with hd2
  have hd2nn : 0 ≤ d2 := by
    rw [show d2 = (a.mag - b.mag * c) ^ 2 + b.mag * b.mag * (1 - c * c) by rw [hd2]; ring]
    exact add_nonneg (sq_nonneg _) (mul_nonneg (mul_self_nonneg _) (sub_nonneg.mpr (abs_le_one_iff_mul_self_le_one.mp hc1)))
  have hmag : (a.distanceTo b).mag = |Real.sqrt (max d2 0)| := by
    show |Real.sqrt (max (a.mag * a.mag + b.mag * b.mag - ((2 : ℕ) : ℝ) * a.mag * b.mag * c) ((0 : ℕ) : ℝ))| = _
    rw [hd2]; push_cast; rfl
  rw [hmag, sq_abs, max_eq_left hd2nn, Real.sq_sqrt hd2nn, hd2]; ring

/-- (E) so the squared distance is the squared Euclidean distance of the Cartesian points to within `2|a||b|·(1e-10+1e-15)`;
    the reference `‖cartC a − cartC b‖` is a genuine metric (symmetric, zero on identical points, triangle inequality) -/
theorem distance_refines_euclid {a b : Geonum ℝ} (ha : a.angle.Inv) (hb : b.angle.Inv) (h0a : 0 ≤ a.mag) (h0b : 0 ≤ b.mag) :
    |(a.distanceTo b).mag ^ 2 - ‖cartC a - cartC b‖ ^ 2| ≤ 2 * a.mag * b.mag * (1 / 10 ^ 10 + 1 / 10 ^ 15) := by
  obtain ⟨δ, hδ, hd⟩ := distance_sq_real ha hb
  rw [hd, euclid_sq, sub_sub_sub_cancel_left]
  exact abs_mul_sub_le (by positivity) (by rw [abs_sub_comm]; exact (cos_lipschitz _ _).trans hδ.le)

theorem reference_metric (a b c : Geonum ℝ) :
    ‖cartC a - cartC b‖ = ‖cartC b - cartC a‖ ∧ ‖cartC a - cartC a‖ = 0 ∧
    ‖cartC a - cartC c‖ ≤ ‖cartC a - cartC b‖ + ‖cartC b - cartC c‖ :=
  ⟨norm_sub_rev _ _, by simp, norm_sub_le_norm_sub_add_norm_sub _ _ _⟩

theorem cartC_eq_cart (g : Geonum ℝ) : cartC g = cart g := rfl

/-- (E) the magnitude of `a − b` is the Euclidean distance of the Cartesian points to within `1e-10·(1+|a|+|b|)` — so the distance
    agrees with subtraction -/
theorem sub_mag_is_distance {a b : Geonum ℝ} (ha : a.angle.Inv) (hb : b.angle.Inv) (h0a : 0 ≤ a.mag) (h0b : 0 ≤ b.mag)
    (hm : 0 ≤ (a.sub b).mag) (hcb : a.angle.blade + (b.angle.blade + 2) ≤ 2 ^ 40) :
    |(a.sub b).mag - ‖cartC a - cartC b‖| ≤ 1 / 10 ^ 10 * (1 + a.mag + b.mag) := by
  rw [cartC_eq_cart, cartC_eq_cart, ← norm_cart hm]
  exact le_trans (abs_norm_sub_norm_le _ _) (sub_refines ha hb h0a h0b hcb)

/-- (E) **circle inversion, exact structure**: away from the centre the result is `c + io` where the inverted offset `io` lies on
    the same ray as the offset `p − c` (same angle field) and `|io|·|p − c| = r²` exactly -/
theorem invertCircle_structure_real (p c : Geonum ℝ) (r : ℝ) (hoff : (p.sub c).mag ≠ 0) :
    ∃ io : Geonum ℝ, p.invertCircle c r = some (c.add io) ∧ io.angle = (p.sub c).angle ∧ io.mag * (p.sub c).mag = r ^ 2 := by
  have hne : feq (p.sub c).mag (zero : ℝ) = false := by
    rw [r_eq, zero_real]; simpa using hoff
  refine ⟨⟨r * r / (p.sub c).mag, (p.sub c).angle⟩, (invertCircle_spec p c r).2 hne, rfl, ?_⟩
  show r * r / (p.sub c).mag * (p.sub c).mag = r ^ 2
  field_simp

/-- (E) as Cartesian points: `p' ≈ c + io` and `p − c ≈ offset`, each within the addition tolerance; so `p'` is on the ray from `c`
    through `p` at distance `r²/|p − c|` (up to those tolerances) -/
theorem invertCircle_cartesian_real {p c : Geonum ℝ} {r : ℝ} (hp : p.angle.Inv) (hc : c.angle.Inv) (h0p : 0 ≤ p.mag) (h0c : 0 ≤ c.mag)
    (hoffpos : 0 < (p.sub c).mag) (hoffinv : (p.sub c).angle.Inv)
    (hcb : p.angle.blade + (c.angle.blade + 2) ≤ 2 ^ 40) (hcb2 : c.angle.blade + (p.sub c).angle.blade ≤ 2 ^ 40) :
    ∃ p' io : Geonum ℝ, p.invertCircle c r = some p' ∧ io.angle = (p.sub c).angle ∧ io.mag * (p.sub c).mag = r ^ 2 ∧
      ‖cart p' - (cart c + cart io)‖ ≤ 1 / 10 ^ 10 * (1 + c.mag + io.mag) ∧
      ‖cart (p.sub c) - (cart p - cart c)‖ ≤ 1 / 10 ^ 10 * (1 + p.mag + c.mag) := by
  obtain ⟨io, hinv, hang, hmag⟩ := invertCircle_structure_real p c r (ne_of_gt hoffpos)
  have hio0 : 0 ≤ io.mag := by rw [eq_div_of_mul_eq hoffpos.ne' hmag]; positivity
  have hioinv : io.angle.Inv := by rw [hang]; exact hoffinv
  exact ⟨c.add io, io, hinv, hang, hmag, add_refines hc hioinv h0c hio0 (by rw [hang]; exact hcb2),
    sub_refines hp hc h0p h0c hcb⟩

/-- (E) points on the circle are fixed: if `|p − c| = r` the inverted offset IS the offset, so `p' = c + (p − c)` -/
theorem invertCircle_fixes_circle_real (p c : Geonum ℝ) (r : ℝ) (hr : (p.sub c).mag = r) (hr0 : r ≠ 0) :
    p.invertCircle c r = some (c.add (p.sub c)) := by
  have hne : feq (p.sub c).mag (zero : ℝ) = false := by
    rw [r_eq, zero_real, hr]; simpa using hr0
  rw [(invertCircle_spec p c r).2 hne]
  have : (⟨fdiv (fmul r r) (p.sub c).mag, (p.sub c).angle⟩ : Geonum ℝ) = p.sub c := by
    have hm : fdiv (fmul r r) (p.sub c).mag = (p.sub c).mag := by
      rw [r_div, r_mul, hr]; field_simp
    rw [hm]
  rw [this]

/-- the reference inversion of the plane in the circle of centre `C` and radius `r` -/
noncomputable def invRef (C : ℂ) (r : ℝ) (P : ℂ) : ℂ := C + ((r ^ 2 / Complex.normSq (P - C) : ℝ) : ℂ) * (P - C)

/-- the reference inversion keeps the point on its ray from the centre with `|P' − C|·|P − C| = r²`, fixes the points of the
    circle, and **is its own inverse** (for `P ≠ C`, `r ≠ 0`) -/
theorem invRef_laws (C P : ℂ) (r : ℝ) (hP : P ≠ C) (hr : r ≠ 0) :
    ‖invRef C r P - C‖ * ‖P - C‖ = r ^ 2 ∧ (‖P - C‖ = |r| → invRef C r P = P) ∧ invRef C r (invRef C r P) = P := by
  have hd : P - C ≠ 0 := sub_ne_zero.mpr hP
  have hn : Complex.normSq (P - C) ≠ 0 := fun h => hd (Complex.normSq_eq_zero.mp h)
  have hnpos : 0 < Complex.normSq (P - C) := Complex.normSq_pos.mpr hd
  have hoff : invRef C r P - C = ((r ^ 2 / Complex.normSq (P - C) : ℝ) : ℂ) * (P - C) := by unfold invRef; ring
  have hr2 : 0 < r ^ 2 := by positivity
  refine ⟨?_, ?_, ?_⟩
  · rw [hoff, norm_mul, Complex.norm_real, Real.norm_of_nonneg (le_of_lt (div_pos hr2 hnpos)), mul_assoc,
      ← sq, Complex.sq_norm]
    field_simp
  · intro hcirc
    have : Complex.normSq (P - C) = r ^ 2 := by rw [← Complex.sq_norm, hcirc, sq_abs]
    unfold invRef
    rw [this, div_self (ne_of_gt hr2)]
    simp
  · have hq : Complex.normSq (invRef C r P - C) = (r ^ 2) ^ 2 / Complex.normSq (P - C) := by
      rw [hoff, Complex.normSq_mul, Complex.normSq_ofReal]
      field_simp
    show C + ((r ^ 2 / Complex.normSq (invRef C r P - C) : ℝ) : ℂ) * (invRef C r P - C) = P
    rw [hq, hoff, ← mul_assoc, ← Complex.ofReal_mul]
    have : r ^ 2 / ((r ^ 2) ^ 2 / Complex.normSq (P - C)) * (r ^ 2 / Complex.normSq (P - C)) = 1 := by
      field_simp
    rw [this]; simp

/-- (E) the inverted offset the code adds to the centre is exactly the reference inversion's offset of the code's own offset vector:
    `cart c + cart io = invRef (cart c) r (cart c + cart (p − c))` -/
theorem invertCircle_offset_is_ref (p c io : Geonum ℝ) (r : ℝ) (hoffpos : 0 < (p.sub c).mag)
    (hang : io.angle = (p.sub c).angle) (hmag : io.mag * (p.sub c).mag = r ^ 2) :
    cart c + cart io = invRef (cart c) r (cart c + cart (p.sub c)) := by
  unfold invRef
  rw [add_sub_cancel_left]
  have hns : Complex.normSq (cart (p.sub c)) = (p.sub c).mag ^ 2 := by
    rw [← Complex.sq_norm, norm_cart hoffpos.le]
  have hio : io.mag = r ^ 2 / (p.sub c).mag := eq_div_of_mul_eq hoffpos.ne' hmag
  congr 1
  show polar io.mag (T io.angle) = _ * polar (p.sub c).mag (T (p.sub c).angle)
  rw [hang, hns, hio]
  rw [ofReal_mul_polar]
  congr 1
  have := ne_of_gt hoffpos
  field_simp

end E

section B
variable {F : Type} [FloatSpec F]

/-- (B) **the distance in rounded arithmetic**: for in-domain magnitudes and a finite angle difference, `distance_to` is within
    `(|a|+|b|)·(2⁻²⁴ + 2⁻⁵⁰) + 1e-90` of the exact law-of-cosines distance `√(|a|² + |b|² − 2|a||b|c)` for the cosine value `c` the code
    obtained — the `√ε`-of-the-scale bound that is attained only for nearly coincident points (where the radicand cancels; before fix
    05011a7 a radicand rounded below zero made this NaN).  Covers the seven roundings of the radicand, the clamp and the root. -/
theorem distance_float {a b : Geonum F} (ha : a.MagDom) (hb : b.MagDom) (hx : Fin (b.angle.sub a.angle).gradeAngle) :
    |val (a.distanceTo b).mag - Real.sqrt (val a.mag * val a.mag + val b.mag * val b.mag
        - 2 * val a.mag * val b.mag * val (FloatLike.cos (b.angle.sub a.angle).gradeAngle))|
      ≤ (val a.mag + val b.mag) * (1 / 2 ^ 24 + 1 / 2 ^ 50) + 1 / 10 ^ 90 :=
  Geonum.distance_float ha hb hx

/-- (B) **`distance_to` against the TRUE Euclidean distance** of the two Cartesian points (angles in true radians, any blade
    histories): within `(|a|+|b|)·1.1e-5 + 1e-90`; the constant is `√(2·1e-10)`, the library's boundary snap of the angle difference
    under the square root of the law of cosines -/
theorem distance_true {a b : Geonum F} (ha : a.angle.Inv) (hb : b.angle.Inv) (hma : a.MagDom) (hmb : b.MagDom) :
    |val (a.distanceTo b).mag - Geonum.euclid (val a.mag) (val b.mag) (Angle.Tpi a.angle) (Angle.Tpi b.angle)|
      ≤ (val a.mag + val b.mag) * (11 / 10 ^ 6) + 1 / 10 ^ 90 :=
  Geonum.distance_true ha hb hma hmb

/-- (B) `distance_to` is symmetric in rounded arithmetic, up to twice that bound -/
theorem distance_symm_float {a b : Geonum F} (ha : a.angle.Inv) (hb : b.angle.Inv) (hma : a.MagDom) (hmb : b.MagDom) :
    |val (a.distanceTo b).mag - val (b.distanceTo a).mag| ≤ 2 * ((val a.mag + val b.mag) * (11 / 10 ^ 6) + 1 / 10 ^ 90) :=
  Geonum.distance_symm_float ha hb hma hmb

/-- (B) the triangle inequality for `distance_to` in rounded arithmetic, up to the three accuracy bounds -/
theorem distance_triangle_float {a b c : Geonum F} (ha : a.angle.Inv) (hb : b.angle.Inv) (hc : c.angle.Inv)
    (hma : a.MagDom) (hmb : b.MagDom) (hmc : c.MagDom) :
    val (a.distanceTo c).mag ≤ val (a.distanceTo b).mag + val (b.distanceTo c).mag
      + ((val a.mag + val c.mag) + (val a.mag + val b.mag) + (val b.mag + val c.mag)) * (11 / 10 ^ 6) + 3 / 10 ^ 90 :=
  Geonum.distance_triangle_float ha hb hc hma hmb hmc

/-- (B) `|a − b|` (general branch of the underlying sum) is the true Euclidean distance within `(|a|+|b|)·1.5e-7`: with
    `distance_true`, "the distance equals `|a − b|`" up to the two bounds -/
theorem sub_mag_true {a b : Geonum F} (ha : a.angle.Inv) (hb : b.angle.Inv) (hma : a.MagDom) (hmb : b.MagDom)
    (h1 : sameAngle a b.negate = false) (h2 : oppositeAngle a b.negate = false) :
    |val (a.sub b).mag - Geonum.euclid (val a.mag) (val b.mag) (Angle.Tpi a.angle) (Angle.Tpi b.angle)|
      ≤ (val a.mag + val b.mag) * (15 / 10 ^ 8) + 1 / 10 ^ 90 :=
  Geonum.sub_mag_true ha hb hma hmb h1 h2

/-- product of the two distances of an inversion, with both roundings -/
theorem invert_prod_real {r2 S I m ε τ : ℝ} (hr2 : 0 ≤ r2) (hm : 0 < m) (hε0 : 0 ≤ ε) (hε1 : ε ≤ 1) (hτ0 : 0 ≤ τ)
    (hS : |S - r2| ≤ r2 * ε + τ) (hI : |I - S / m| ≤ |S / m| * ε + τ) :
    |I * m - r2| ≤ r2 * (3 * ε) + (2 + m) * τ := by
  -- `S/m ≈ r2/m`, then `I ≈ S/m`, then everything times `m`
  have hS' : |S - r2| ≤ |r2| * ε + τ := by rwa [abs_of_nonneg hr2]
  have h := approx_mul m (approx_trans hε0 (approx_div m hS') hI)
  rw [div_mul_cancel₀ _ hm.ne', abs_of_nonneg hr2, abs_of_pos hm,
    show (τ / m + τ + τ / m * ε) * m = τ + τ * m + τ * ε by field_simp] at h
  linarith only [h, mul_le_mul_of_nonneg_left hε1 (mul_nonneg hr2 hε0), mul_le_mul_of_nonneg_left hε1 hτ0]

/-- the length `r·r / m` of the inverted offset in rounded arithmetic, for an offset of length `m ≥ 1e-100` and `|r| ≤ 1e70` -/
theorem invert_mag_float {r m : F} (hr : Fin r) (hrb : |val r| ≤ 10 ^ 70) (hfm : Fin m) (hm : 1 / 10 ^ 100 ≤ val m) :
    |val (fdiv (fmul r r) m) * val m - val r * val r| ≤ val r * val r * (3 * (1 / 2 ^ 53)) + (2 + val m) * (1 / 2 ^ 1075) := by
  have hmpos : 0 < val m := lt_of_lt_of_le (by positivity) hm
  have hr2 : 0 ≤ val r * val r := mul_self_nonneg _
  obtain ⟨hfS, hvS, hSb⟩ := fmul_bd hr hr hrb hrb (by norm_num)
  have hS := rnd_rel (F := F) (val r * val r); rw [← hvS, abs_of_nonneg hr2] at hS
  obtain ⟨_, hvI⟩ := fdiv_spec hfS hfm hmpos.ne' (inRange_of_le (by
    rw [abs_div, abs_of_pos hmpos, div_le_iff₀ hmpos]
    calc |val (fmul r r)| ≤ 10 ^ 250 * (1 / 10 ^ 100) := le_trans hSb (by norm_num)
      _ ≤ 10 ^ 250 * val m := mul_le_mul_of_nonneg_left hm (by positivity)))
  have hI := rnd_rel (F := F) (val (fmul r r) / val m); rw [← hvI] at hI
  exact invert_prod_real hr2 hmpos (by positivity) (by norm_num) (by positivity) hS hI

/-- (B) **circle inversion in rounded arithmetic**: for canonical `p`, `c` in the magnitude domain with an offset of magnitude at least
    `1e-100` (the property's domain; the zero offset panics, `invertCircle_spec`), a radius up to `1e70` and an inverted offset that stays
    in the magnitude domain, the inversion returns `p' = c + io` where `io` lies on the ray of the computed offset `o = p − c` (its angle
    field is the offset's), the product of the two distances is the squared radius — `|io|·|o| = r²` within `3·2⁻⁵³` relative — the cosine
    component of the offset is that of the Cartesian difference of `p` and `c`, and both components of `p'` are those of the Cartesian sum
    of `c` and `io`, each within the every-branch bound -/
theorem invertCircle_float {p c : Geonum F} {r : F} (hp : p.angle.Inv) (hc : c.angle.Inv) (hmp : p.MagDom) (hmc : c.MagDom)
    (hr : Fin r) (hrb : |val r| ≤ 10 ^ 70) (hcb : p.angle.blade + c.angle.blade + 2 ≤ 2 ^ 39)
    (hm : 1 / 10 ^ 100 ≤ val (p.sub c).mag)
    (hio : (⟨fdiv (fmul r r) (p.sub c).mag, (p.sub c).angle⟩ : Geonum F).MagDom)
    (hcb2 : c.angle.blade + (p.sub c).angle.blade ≤ 2 ^ 39) :
    ∃ p' io : Geonum F, p.invertCircle c r = some p' ∧ p' = c.add io ∧ io.angle = (p.sub c).angle ∧
      |val io.mag * val (p.sub c).mag - val r * val r| ≤ val r * val r * (3 * (1 / 2 ^ 53)) + (2 + val (p.sub c).mag) * (1 / 2 ^ 1075) ∧
      |val (p.sub c).mag * Real.cos (Angle.Tpi (p.sub c).angle) + val c.mag * Real.cos (Angle.Tpi c.angle)
          - val p.mag * Real.cos (Angle.Tpi p.angle)|
        ≤ (val p.mag + val c.mag) * (2 / 10 ^ 7 + 11 / 10 * (val (e10 : F)
            + (40 * ((p.angle.blade + c.angle.blade + 2 : ℕ) : ℝ) + 170) * (1 / 2 ^ 53))) + 1 / 10 ^ 28 + 2 * val (e10 : F) ∧
      |val p'.mag * Real.cos (Angle.Tpi p'.angle)
          - (val c.mag * Real.cos (Angle.Tpi c.angle) + val io.mag * Real.cos (Angle.Tpi io.angle))|
        ≤ (val c.mag + val io.mag) * (2 / 10 ^ 7 + 11 / 10 * (val (e10 : F)
            + (40 * ((c.angle.blade + io.angle.blade : ℕ) : ℝ) + 170) * (1 / 2 ^ 53))) + 1 / 10 ^ 28 + 2 * val (e10 : F) ∧
      |val p'.mag * Real.sin (Angle.Tpi p'.angle)
          - (val c.mag * Real.sin (Angle.Tpi c.angle) + val io.mag * Real.sin (Angle.Tpi io.angle))|
        ≤ (val c.mag + val io.mag) * (2 / 10 ^ 7 + 11 / 10 * (val (e10 : F)
            + (40 * ((c.angle.blade + io.angle.blade : ℕ) : ℝ) + 170) * (1 / 2 ^ 53))) + 1 / 10 ^ 28 + 2 * val (e10 : F) := by
  have hoinv : (p.sub c).angle.Inv := Geonum.sub_angle_inv hp hc hmp hmc hcb
  have hfo := (Geonum.sub_mag_ok' hmp hmc hp hc).1
  have hmpos : 0 < val (p.sub c).mag := lt_of_lt_of_le (by positivity) hm
  have hoff : feq (p.sub c).mag zero = false :=
    Bool.eq_false_iff.mpr fun h => hmpos.ne' (((feq_spec hfo (fin_zero (F := F))).mp h).trans val_zero)
  refine ⟨c.add ⟨fdiv (fmul r r) (p.sub c).mag, (p.sub c).angle⟩, ⟨fdiv (fmul r r) (p.sub c).mag, (p.sub c).angle⟩,
    (invertCircle_spec p c r).2 hoff, rfl, rfl, ?_, ?_, ?_⟩
  · exact invert_mag_float hr hrb hfo hm
  · exact (prod_norm_le.mp (Geonum.sub_cartF_every_branch hp hc hmp hmc hcb)).1
  · exact Geonum.sum_cartesian_every_branch_float (b := ⟨fdiv (fmul r r) (p.sub c).mag, (p.sub c).angle⟩) hc hoinv hmc hio hcb2

end B

/-! The involution is proved for the reference map (`invRef_laws`), and the code is tied to the reference map by
    `invertCircle_cartesian_real` + `invertCircle_offset_is_ref` (the result is within the addition tolerance of `invRef` applied to a
    point within the addition tolerance of `p`).  Composing two such steps into a single bound `‖p'' − p‖ ≤ …` needs the Lipschitz
    constant `r²/|p−c|²` of `invRef` and is not proved as one statement; it is explored by `oracle.C13.invert` with exactly that
    conditioning factor. -/

/-- non-vacuity / usable form: for canonical angles the cosine argument is finite, so `distance_float` applies to every pair of
    in-domain numbers -/
example {F : Type} [FloatSpec F] {a b : Geonum F} (ha : a.MagDom) (hb : b.MagDom) (hai : a.angle.Inv) (hbi : b.angle.Inv) :
    |val (a.distanceTo b).mag - Real.sqrt (val a.mag * val a.mag + val b.mag * val b.mag
        - 2 * val a.mag * val b.mag * val (FloatLike.cos (b.angle.sub a.angle).gradeAngle))|
      ≤ (val a.mag + val b.mag) * (1 / 2 ^ 24 + 1 / 2 ^ 50) + 1 / 10 ^ 90 :=
  distance_float ha hb (gradeAngle_fin (geometricSub_spec hbi hai).1)

example {F : Type} [FloatSpec F] : (⟨zero, 0⟩ : Angle F).Inv := inv_zero 0

/-! ### R — on the arithmetic that really rounds (`R64`) -/
section R

/-- (R) `distance_to` against the true Euclidean distance for all pairs of binary64 numbers in the domain -/
theorem distance_true_rounded {a b : Geonum R64} (ha : a.angle.Inv) (hb : b.angle.Inv) (hma : a.MagDom) (hmb : b.MagDom) :
    |(a.distanceTo b).mag.v - Geonum.euclid a.mag.v b.mag.v (Angle.Tpi a.angle) (Angle.Tpi b.angle)|
      ≤ (a.mag.v + b.mag.v) * (11 / 10 ^ 6) + 1 / 10 ^ 90 :=
  distance_true (F := R64) ha hb hma hmb

end R

end GeonumModel.C13
