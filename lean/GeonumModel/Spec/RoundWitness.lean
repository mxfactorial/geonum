/-
  GeonumModel.Spec.RoundWitness — a *rounding* arithmetic satisfies every field of `FloatSpec`: the contract is not only
  satisfiable when nothing is ever rounded (`Spec/RealWitness.lean`), so the S-tier theorems say something about a machine.

  The carrier is the set of finite binary64 values (`m·2^e`, `|m| < 2^53`, `e ≥ -1074`; exponent unbounded above, so there is
  no overflow and `Fin`, `InRange` are trivially true).  `+ - * /`, `sqrt`, decimal literals and the libm entry points return
  *the exact result rounded to nearest* (`R53.rnd`); `atan2`, `acos`, `asin` are additionally clamped to the float `PI` resp.
  `PI/2`, which is what glibc returns at the ends of their ranges.  `fmod`, `floor`, `ceil`, `round`, `fract`, `abs`, negation,
  `max` are exact, and proved representable.  `PI` is the binary64 constant 884279719003555·2^-48.

  Not proved here: that the hardware/glibc implement this arithmetic (trusted, monitored by the `arith.*` probe lines), overflow
  to ±∞ and NaN propagation (outside the `Fin`/`InRange` premises of every field), and the tie rule (no field depends on it).
-/
import GeonumModel.Spec.FloatSpec
import GeonumModel.Spec.Round53
import Mathlib.Analysis.SpecialFunctions.Pow.Real
import Mathlib.Analysis.SpecialFunctions.Trigonometric.DerivHyp
import Mathlib.Analysis.Complex.ExponentialBounds
import Mathlib.Analysis.Real.Pi.Bounds

namespace GeonumModel
open Classical

/-- a finite binary64 value (exponent unbounded above) -/
structure R64 where
  v : ℝ
  rep : R53.Rep v

namespace R64
noncomputable section

@[ext] theorem ext' {a b : R64} (h : a.v = b.v) : a = b := by
  cases a; cases b; simp only at h; subst h; rfl

/-- the exact result rounded to nearest -/
def ofReal (x : ℝ) : R64 := ⟨R53.rnd x, R53.rep_rnd x⟩

/-- the binary64 constant `PI` -/
def piR : ℝ := 884279719003555 / 2 ^ 48

theorem rep_piR : R53.Rep piR :=
  ⟨884279719003555, -48, by norm_num, by norm_num, by unfold piR; rw [zpow_neg]; norm_num [div_eq_mul_inv]⟩

theorem piR_le : piR ≤ Real.pi := by
  have := Real.pi_gt_d20; unfold piR; norm_num at *; linarith

theorem piR_ge : Real.pi - 2 / 10 ^ 16 ≤ piR := by
  have := Real.pi_lt_d20; unfold piR; norm_num at *; linarith

theorem piR_pos : 0 < piR := by unfold piR; positivity

theorem rep_half_piR : R53.Rep (piR / 2) :=
  ⟨884279719003555, -49, by norm_num, by norm_num, by unfold piR; rw [zpow_neg]; norm_num [div_eq_mul_inv]⟩

/-- `x - trunc x` -/
def fractR (x : ℝ) : ℝ := if 0 ≤ x then x - (⌊x⌋ : ℝ) else -(-x - (⌊-x⌋ : ℝ))

theorem rep_fractR {x : ℝ} (h : R53.Rep x) : R53.Rep (fractR x) := by
  unfold fractR; split
  · exact R53.rep_fract_nonneg h ‹_›
  · exact R53.rep_neg (R53.rep_fract_nonneg (R53.rep_neg h) (by linarith))

theorem fractR_eq_zero_iff (x : ℝ) : fractR x = 0 ↔ ∃ n : ℤ, x = n := by
  unfold fractR; split
  · constructor
    · intro h; exact ⟨⌊x⌋, by linarith⟩
    · rintro ⟨n, rfl⟩; simp
  · constructor
    · intro h; exact ⟨-⌊-x⌋, by push_cast; linarith⟩
    · rintro ⟨n, rfl⟩
      have : (-(n:ℝ)) = ((-n : ℤ) : ℝ) := by push_cast; rfl
      rw [this, Int.floor_intCast]; simp

/-- Rust `f64::round`: half away from zero -/
def roundR (x : ℝ) : ℝ := if 0 ≤ x then (round x : ℝ) else -(round (-x) : ℝ)

theorem rep_roundR {x : ℝ} (h : R53.Rep x) : R53.Rep (roundR x) := by
  unfold roundR; split
  · exact R53.rep_round h
  · exact R53.rep_neg (R53.rep_round (R53.rep_neg h))

theorem rep_abs {x : ℝ} (h : R53.Rep x) : R53.Rep |x| := by
  rcases abs_choice x with e | e <;> rw [e]
  · exact h
  · exact R53.rep_neg h

theorem rep_max {x y : ℝ} (hx : R53.Rep x) (hy : R53.Rep y) : R53.Rep (max x y) := by
  rcases max_choice x y with e | e <;> rw [e] <;> assumption

/-- clamp to `[-c, c]` -/
def clampR (c x : ℝ) : ℝ := max (-c) (min c x)

theorem clampR_abs {c x : ℝ} (hc : 0 ≤ c) : |clampR c x| ≤ c := by
  unfold clampR; rw [abs_le]
  exact ⟨le_max_left _ _, max_le (by linarith) (min_le_left _ _)⟩

theorem clampR_dist {c x p : ℝ} (hc : 0 ≤ c) (hcp : c ≤ p) (hx : |x| ≤ p) : |clampR c x - x| ≤ p - c := by
  unfold clampR
  rw [abs_le] at hx ⊢
  rcases le_total c x with h | h
  · rw [min_eq_left h, max_eq_right (by linarith)]; constructor <;> linarith
  · rw [min_eq_right h]
    rcases le_total (-c) x with h' | h'
    · rw [max_eq_right h']; constructor <;> linarith
    · rw [max_eq_left h']; constructor <;> linarith

theorem rnd_abs_le {c x : ℝ} (hc : R53.Rep c) (h : |x| ≤ c) : |R53.rnd x| ≤ c := by
  rw [abs_le] at h ⊢
  constructor
  · have := R53.rnd_mono h.1
    rwa [R53.rnd_neg, R53.rnd_rep hc] at this
  · have := R53.rnd_mono h.2
    rwa [R53.rnd_rep hc] at this

theorem rep_one : R53.Rep 1 := R53.rep_one

theorem rnd_err_small {x : ℝ} (h : |x| ≤ 4) : |R53.rnd x - x| ≤ 5 / 10 ^ 16 := by
  have h1 := R53.rnd_err x
  have h2 : |x| / 2 ^ 53 ≤ 4 / 2 ^ 53 := by
    apply div_le_div_of_nonneg_right h; positivity
  have h3 : (1:ℝ) / 2 ^ 1075 ≤ 1 / 2 ^ 60 := by
    apply one_div_le_one_div_of_le (by positivity)
    exact pow_le_pow_right₀ (by norm_num) (by norm_num)
  have h4 : (4:ℝ) / 2 ^ 53 + 1 / 2 ^ 60 ≤ 5 / 10 ^ 16 := by norm_num
  linarith

instance instFloatLikeR64 : FloatLike R64 where
  fadd := fun a b => ofReal (a.v + b.v)
  fsub := fun a b => ofReal (a.v - b.v)
  fmul := fun a b => ofReal (a.v * b.v)
  fdiv := fun a b => ofReal (a.v / b.v)
  fneg := fun a => ⟨-a.v, R53.rep_neg a.rep⟩
  fabs := fun a => ⟨|a.v|, rep_abs a.rep⟩
  flt := fun a b => decide (a.v < b.v)
  fle := fun a b => decide (a.v ≤ b.v)
  feq := fun a b => decide (a.v = b.v)
  fmod := fun a b =>
    if h : 0 ≤ a.v ∧ 0 < b.v then ⟨a.v - (⌊a.v / b.v⌋ : ℝ) * b.v, R53.rep_fmod a.rep b.rep h.1 h.2⟩
    else ofReal (a.v - (⌊a.v / b.v⌋ : ℝ) * b.v)
  floor := fun a => ⟨(⌊a.v⌋ : ℝ), R53.rep_floor a.rep⟩
  ceil := fun a => ⟨(⌈a.v⌉ : ℝ), R53.rep_ceil a.rep⟩
  round := fun a => ⟨roundR a.v, rep_roundR a.rep⟩
  fract := fun a => ⟨fractR a.v, rep_fractR a.rep⟩
  isNormal := fun a => decide ((1:ℝ) / 2 ^ 1022 ≤ |a.v|)
  isFinite := fun _ => true
  sqrt := fun a => ofReal (Real.sqrt a.v)
  fmax := fun a b => ⟨max a.v b.v, rep_max a.rep b.rep⟩
  toUsize := fun a => ⌊a.v⌋₊
  ofNat := fun n => ofReal (n : ℝ)
  ofInt := fun i => ofReal (i : ℝ)
  ofSci := fun m s e => ofReal (if s then (m : ℝ) / 10 ^ e else (m : ℝ) * 10 ^ e)
  pi := ⟨piR, rep_piR⟩
  cos := fun a => ofReal (Real.cos a.v)
  sin := fun a => ofReal (Real.sin a.v)
  atan2 := fun y x => ofReal (clampR piR (Complex.arg ⟨x.v, y.v⟩))
  acos := fun a => ofReal (clampR piR (Real.arccos a.v))
  asin := fun a => ofReal (clampR (piR / 2) (Real.arcsin a.v))
  exp := fun a => ofReal (Real.exp a.v)
  tanh := fun a => ofReal (Real.tanh a.v)
  ln := fun a => ofReal (Real.log a.v)
  powf := fun a b => ofReal (a.v ^ b.v)

theorem exp_700_le : Real.exp 700 ≤ 2 ^ (1050:ℤ) := by
  have h1 : Real.exp 1 ≤ 2.72 := le_of_lt (lt_trans Real.exp_one_lt_d9 (by norm_num))
  have h2 : Real.exp 700 = (Real.exp 1 ^ (2:ℕ)) ^ (350:ℕ) := by
    rw [← pow_mul, ← Real.exp_nat_mul]; norm_num
  have h3 : Real.exp 1 ^ (2:ℕ) ≤ 2 ^ (3:ℕ) := by
    have : Real.exp 1 ^ (2:ℕ) ≤ (2.72:ℝ) ^ (2:ℕ) := pow_le_pow_left₀ (le_of_lt (Real.exp_pos 1)) h1 _
    have : (2.72:ℝ) ^ (2:ℕ) ≤ 2 ^ (3:ℕ) := by norm_num
    linarith
  have h4 : (2:ℝ) ^ (1050:ℤ) = ((2:ℝ) ^ (3:ℕ)) ^ (350:ℕ) := by
    rw [← pow_mul]
    have : (1050:ℤ) = ((3 * 350 : ℕ) : ℤ) := by norm_num
    rw [this, zpow_natCast]
  rw [h2, h4]
  exact pow_le_pow_left₀ (by positivity) h3 _

instance instFloatSpecR64 : FloatSpec R64 where
  Fin := fun _ => True
  val := fun a => a.v
  rnd := R53.rnd
  Rep := R53.Rep
  InRange := fun _ => True
  piV := piR
  errTrig := 1 / 10 ^ 15
  rnd_mono := R53.rnd_mono
  rnd_rep := R53.rnd_rep
  rnd_neg := R53.rnd_neg
  rep_rnd := fun {x} _ => R53.rep_rnd x
  rnd_err := R53.rnd_err
  rep_val := fun {a} _ => a.rep
  rep_neg := R53.rep_neg
  rep_nat := R53.rep_nat
  rep_scale := fun k h1 h2 h3 => R53.rep_scale k h1 h2 h3
  inRange_of_le := fun _ => trivial
  inRange_val := fun _ => trivial
  inRange_mono := fun _ _ => trivial
  fadd_spec := fun _ _ _ => ⟨trivial, rfl⟩
  fsub_spec := fun _ _ _ => ⟨trivial, rfl⟩
  fmul_spec := fun _ _ _ => ⟨trivial, rfl⟩
  fdiv_spec := fun _ _ _ _ => ⟨trivial, rfl⟩
  sqrt_spec := fun _ _ => ⟨trivial, rfl⟩
  sterbenz := fun {a b} _ _ h1 h2 => ⟨trivial, by
    show R53.rnd (a.v - b.v) = a.v - b.v
    exact R53.rnd_rep (R53.rep_sub_sterbenz a.rep b.rep h1 h2)⟩
  fadd_comm := fun {a b} _ _ => by
    show ofReal (a.v + b.v) = ofReal (b.v + a.v); rw [add_comm]
  fmul_comm := fun {a b} _ _ => by
    show ofReal (a.v * b.v) = ofReal (b.v * a.v); rw [mul_comm]
  fneg_spec := fun _ => ⟨trivial, rfl⟩
  fabs_spec := fun _ => ⟨trivial, rfl⟩
  fmod_spec := fun {a b} _ _ h1 h2 => ⟨trivial, by
    show (FloatLike.fmod a b).v = _
    simp only [FloatLike.fmod, dif_pos (And.intro h1 h2)]⟩
  ceil_spec := fun _ => ⟨trivial, rfl⟩
  floor_spec := fun _ => ⟨trivial, rfl⟩
  round_spec := fun {a} _ h => ⟨trivial, by
    show roundR a.v = _
    unfold roundR; rw [if_pos h]⟩
  fract_spec := fun {a} _ => ⟨trivial, fractR_eq_zero_iff a.v⟩
  fmax_spec := fun _ _ => ⟨trivial, rfl⟩
  isNormal_spec := fun {a} _ => by show decide ((1:ℝ) / 2 ^ 1022 ≤ |a.v|) = true ↔ _; simp
  isFinite_spec := fun _ => rfl
  flt_spec := fun {a b} _ _ => by show decide (a.v < b.v) = true ↔ _; simp
  fle_spec := fun {a b} _ _ => by show decide (a.v ≤ b.v) = true ↔ _; simp
  feq_spec := fun {a b} _ _ => by show decide (a.v = b.v) = true ↔ _; simp
  toUsize_spec := fun _ _ _ => rfl
  ofNat_spec := fun {n} h => ⟨trivial, R53.rnd_rep (R53.rep_nat h)⟩
  ofInt_spec := fun {i} h => ⟨trivial, R53.rnd_rep (R53.rep_int h)⟩
  ofSci_spec := fun _ _ => ⟨trivial, by simp [FloatLike.ofSci, ofReal]⟩
  pi_spec := ⟨trivial, rfl⟩
  piV_le := piR_le
  piV_ge := piR_ge
  errTrig_nonneg := by positivity
  errTrig_le := le_refl _
  cos_spec := fun {a} _ => ⟨trivial, rnd_abs_le rep_one (Real.abs_cos_le_one a.v), by
    show |R53.rnd (Real.cos a.v) - Real.cos a.v| ≤ 1 / 10 ^ 15
    have := rnd_err_small (x := Real.cos a.v) (le_trans (Real.abs_cos_le_one _) (by norm_num))
    have : (5:ℝ) / 10 ^ 16 ≤ 1 / 10 ^ 15 := by norm_num
    linarith⟩
  sin_spec := fun {a} _ => ⟨trivial, rnd_abs_le rep_one (Real.abs_sin_le_one a.v), by
    show |R53.rnd (Real.sin a.v) - Real.sin a.v| ≤ 1 / 10 ^ 15
    have := rnd_err_small (x := Real.sin a.v) (le_trans (Real.abs_sin_le_one _) (by norm_num))
    have : (5:ℝ) / 10 ^ 16 ≤ 1 / 10 ^ 15 := by norm_num
    linarith⟩
  cos_zero := fun {a} _ h => by
    show R53.rnd (Real.cos a.v) = 1
    rw [show a.v = 0 from h, Real.cos_zero]; exact R53.rnd_rep rep_one
  sin_zero := fun {a} _ h => by
    show R53.rnd (Real.sin a.v) = 0
    rw [show a.v = 0 from h, Real.sin_zero]; exact R53.rnd_zero
  atan2_spec := fun {y x} _ _ => ⟨trivial, rnd_abs_le rep_piR (clampR_abs (le_of_lt piR_pos)), fun _ => by
    show |R53.rnd (clampR piR (Complex.arg ⟨x.v, y.v⟩)) - Complex.arg ⟨x.v, y.v⟩| ≤ 1 / 10 ^ 15
    have hc : |clampR piR (Complex.arg ⟨x.v, y.v⟩)| ≤ 4 :=
      le_trans (clampR_abs (le_of_lt piR_pos)) (by have := piR_le; have := Real.pi_lt_four; linarith)
    have h1 := rnd_err_small hc
    have h2 := clampR_dist (x := Complex.arg ⟨x.v, y.v⟩) (le_of_lt piR_pos) piR_le (Complex.abs_arg_le_pi _)
    have h3 := piR_ge
    have : |R53.rnd (clampR piR (Complex.arg ⟨x.v, y.v⟩)) - Complex.arg ⟨x.v, y.v⟩|
        ≤ |R53.rnd (clampR piR (Complex.arg ⟨x.v, y.v⟩)) - clampR piR (Complex.arg ⟨x.v, y.v⟩)|
          + |clampR piR (Complex.arg ⟨x.v, y.v⟩) - Complex.arg ⟨x.v, y.v⟩| := by
      have := abs_add_le (R53.rnd (clampR piR (Complex.arg ⟨x.v, y.v⟩)) - clampR piR (Complex.arg ⟨x.v, y.v⟩))
        (clampR piR (Complex.arg ⟨x.v, y.v⟩) - Complex.arg ⟨x.v, y.v⟩)
      simpa using this
    have : (5:ℝ) / 10 ^ 16 + 2 / 10 ^ 16 ≤ 1 / 10 ^ 15 := by norm_num
    linarith⟩
  atan2_neg_axis := fun {y x} _ _ hy hx => by
    show piR - 1 / 10 ^ 15 ≤ |R53.rnd (clampR piR (Complex.arg ⟨x.v, y.v⟩))|
    have : (⟨x.v, y.v⟩ : ℂ) = ((x.v : ℝ) : ℂ) := by apply Complex.ext <;> simp [show y.v = 0 from hy]
    rw [this, Complex.arg_ofReal_of_neg (show x.v < 0 from hx)]
    have hc : clampR piR Real.pi = piR := by
      unfold clampR
      rw [min_eq_left piR_le, max_eq_right (by have := piR_pos; linarith)]
    rw [hc, R53.rnd_rep rep_piR, abs_of_pos piR_pos]
    have : (0:ℝ) ≤ 1 / 10 ^ 15 := by positivity
    linarith
  acos_spec := fun {a} _ _ => ⟨trivial, by
      show 0 ≤ R53.rnd (clampR piR (Real.arccos a.v))
      apply R53.rnd_nonneg
      unfold clampR
      exact le_max_of_le_right (le_min (le_of_lt piR_pos) (Real.arccos_nonneg _)), by
      have := rnd_abs_le rep_piR (clampR_abs (x := Real.arccos a.v) (le_of_lt piR_pos))
      exact (abs_le.mp this).2⟩
  asin_spec := fun {a} _ _ => ⟨trivial,
    rnd_abs_le rep_half_piR (clampR_abs (by have := piR_pos; linarith))⟩
  exp_spec := fun {a} _ h700 => by
    have hrnd1 : R53.rnd 1 = 1 := R53.rnd_rep rep_one
    have hlow : (2:ℝ) ^ (-1050:ℤ) ≤ Real.exp a.v := by
      have h' : |a.v| ≤ 700 := h700
      have : Real.exp (-700) ≤ Real.exp a.v := Real.exp_le_exp.mpr (abs_le.mp h').1
      have h2 : (2:ℝ) ^ (-1050:ℤ) ≤ Real.exp (-700) := by
        rw [Real.exp_neg, zpow_neg]
        exact inv_anti₀ (Real.exp_pos _) exp_700_le
      linarith
    have hrep : R53.Rep ((2:ℝ) ^ (-1050:ℤ)) := ⟨1, -1050, by norm_num, by norm_num, by simp⟩
    refine ⟨trivial, ?_, ?_, ?_, ?_⟩
    · show 0 < R53.rnd (Real.exp a.v)
      have := R53.rnd_mono hlow
      rw [R53.rnd_rep hrep] at this
      exact lt_of_lt_of_le (R53.two_zpow_pos _) this
    · intro h
      show 1 ≤ R53.rnd (Real.exp a.v)
      have := R53.rnd_mono (Real.one_le_exp (show 0 ≤ a.v from h)); rwa [hrnd1] at this
    · intro h
      show R53.rnd (Real.exp a.v) ≤ 1
      have := R53.rnd_mono (Real.exp_le_one_iff.mpr (show a.v ≤ 0 from h)); rwa [hrnd1] at this
    · intro h
      have h' : |a.v| ≤ 1 := h
      rw [abs_le] at h'
      have e1 : Real.exp 1 < 3 := lt_trans Real.exp_one_lt_d9 (by norm_num)
      have up : Real.exp a.v ≤ 3 := le_trans (Real.exp_le_exp.mpr h'.2) (le_of_lt e1)
      have lo : (11:ℝ) / 32 ≤ Real.exp a.v := by
        have : Real.exp (-1) ≤ Real.exp a.v := Real.exp_le_exp.mpr h'.1
        have h3 : (11:ℝ) / 32 ≤ Real.exp (-1) := by
          rw [Real.exp_neg]
          have : (Real.exp 1)⁻¹ ≥ (3:ℝ)⁻¹ := inv_anti₀ (Real.exp_pos 1) (le_of_lt e1)
          have h4 : (2.72:ℝ)⁻¹ ≤ (Real.exp 1)⁻¹ :=
            inv_anti₀ (Real.exp_pos 1) (le_of_lt (lt_trans Real.exp_one_lt_d9 (by norm_num)))
          have : (11:ℝ) / 32 ≤ (2.72:ℝ)⁻¹ := by norm_num
          linarith
        linarith
      have r3 : R53.Rep 3 := by simpa using R53.rep_nat (n := 3) (by norm_num)
      have r11 : R53.Rep ((11:ℝ) / 32) :=
        ⟨11, -5, by norm_num, by norm_num, by rw [zpow_neg]; norm_num [div_eq_mul_inv]⟩
      constructor
      · show (1:ℝ) / 3 ≤ R53.rnd (Real.exp a.v)
        have := R53.rnd_mono lo; rw [R53.rnd_rep r11] at this
        have : (1:ℝ) / 3 ≤ 11 / 32 := by norm_num
        linarith
      · show R53.rnd (Real.exp a.v) ≤ 3
        have := R53.rnd_mono up; rwa [R53.rnd_rep r3] at this
  tanh_spec := fun {a} _ => ⟨trivial, rnd_abs_le rep_one (by
    rw [abs_le]; exact ⟨le_of_lt (Real.neg_one_lt_tanh a.v), le_of_lt (Real.tanh_lt_one a.v)⟩)⟩

/-- the rounding arithmetic really rounds: `1 + 2^-60` is not representable and `fadd` returns `1` -/
example : (FloatLike.fadd (ofReal 1) (ofReal ((2:ℝ) ^ (-60:ℤ))) : R64).v = 1 := by
  have hrep : R53.Rep ((2:ℝ) ^ (-60:ℤ)) := ⟨1, -60, by norm_num, by norm_num, by simp⟩
  show R53.rnd (R53.rnd 1 + R53.rnd ((2:ℝ) ^ (-60:ℤ))) = 1
  rw [R53.rnd_rep rep_one, R53.rnd_rep hrep]
  -- `1 + 2^-60` lies in the binade of `1`, where the grid spacing is `2^-52`; in grid steps it is `2^52 + 2^-8`, which rounds to `2^52`
  have hx0 : (0:ℝ) < 1 + 2 ^ (-60:ℤ) := by positivity
  have hlog : Int.log 2 (1 + (2:ℝ) ^ (-60:ℤ)) = 0 := by
    apply le_antisymm
    · rw [← Int.lt_add_one_iff, ← Int.lt_zpow_iff_log_lt (by norm_num) hx0]; norm_num
    · rw [← Int.zpow_le_iff_le_log (by norm_num) hx0]; norm_num
  have hu : R53.uexp (1 + (2:ℝ) ^ (-60:ℤ)) = -52 := by unfold R53.uexp R53.binade; rw [hlog]; norm_num
  rw [R53.rnd_of_nonneg hx0.le]
  unfold R53.rpos
  rw [hu, show round ((1 + (2:ℝ) ^ (-60:ℤ)) / 2 ^ (-52:ℤ)) = 2 ^ 52 by rw [round_eq, Int.floor_eq_iff]; norm_num]
  norm_num

end
end R64
end GeonumModel
