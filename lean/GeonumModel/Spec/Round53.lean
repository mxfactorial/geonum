/-
  GeonumModel.Spec.Round53 — round-to-nearest onto the binary64 grid (53-bit significands, gradual underflow with least
  spacing 2^-1074, exponent unbounded above) as a function on ℝ, with the facts the `FloatSpec` contract asks of `rnd` / `Rep`.
  Ties go away from zero: no field of the contract depends on the tie rule (the hardware breaks them to even).
-/
import Mathlib.Data.Int.Log
import Mathlib.Algebra.Order.Round
import Mathlib.Algebra.Order.Floor.Ring
import Mathlib.Tactic.Linarith
import Mathlib.Tactic.Positivity
import Mathlib.Tactic.Ring
import Mathlib.Tactic.NormNum
import Mathlib.Tactic.FieldSimp
import Mathlib.Algebra.Order.Archimedean.Real.Basic

namespace GeonumModel.R53
noncomputable section

/-- binade index of a positive real, clamped at the bottom of the normal range -/
def binade (x : ℝ) : ℤ := max (Int.log 2 x) (-1022)

/-- exponent of the grid spacing around `x` -/
def uexp (x : ℝ) : ℤ := binade x - 52

/-- nearest grid point of a non-negative real (ties up) -/
def rpos (x : ℝ) : ℝ := (round (x / 2 ^ uexp x) : ℝ) * 2 ^ uexp x

/-- round to nearest, ties away from zero -/
def rnd (x : ℝ) : ℝ := if 0 ≤ x then rpos x else -rpos (-x)

/-- finite binary64 values with the exponent unbounded above: `m · 2^e`, `|m| < 2^53`, `e ≥ -1074` -/
def Rep (x : ℝ) : Prop := ∃ m e : ℤ, |m| < 2 ^ 53 ∧ -1074 ≤ e ∧ x = m * (2:ℝ) ^ e

theorem two_zpow_pos (e : ℤ) : (0:ℝ) < 2 ^ e := zpow_pos two_pos e

theorem zpow_mono2 {a b : ℤ} (h : a ≤ b) : (2:ℝ) ^ a ≤ 2 ^ b := zpow_le_zpow_right₀ one_le_two h

theorem two_zpow_add (a b : ℤ) : (2:ℝ) ^ (a + b) = 2 ^ a * 2 ^ b := zpow_add₀ two_ne_zero a b

theorem cast_pow53 : ((2 ^ 53 : ℤ) : ℝ) = (2:ℝ) ^ (53:ℤ) := by norm_num
theorem cast_pow52 : ((2 ^ 52 : ℤ) : ℝ) = (2:ℝ) ^ (52:ℤ) := by norm_num

/-- the grid around `x` has `2^53` steps up to the top of the binade of `x`, `2^52` up to its bottom -/
theorem grid_top (x : ℝ) : (2:ℝ) ^ (53:ℤ) * 2 ^ uexp x = 2 ^ (binade x + 1) := by
  rw [← two_zpow_add]; congr 1; unfold uexp; ring

theorem grid_bot (x : ℝ) : (2:ℝ) ^ (52:ℤ) * 2 ^ uexp x = 2 ^ binade x := by
  rw [← two_zpow_add]; congr 1; unfold uexp; ring

theorem binade_ge (x : ℝ) : -1022 ≤ binade x := le_max_right _ _

theorem uexp_ge (x : ℝ) : -1074 ≤ uexp x := by unfold uexp; have := binade_ge x; omega

theorem lt_binade_succ (x : ℝ) : x < 2 ^ (binade x + 1) := by
  have h := Int.lt_zpow_succ_log_self (R := ℝ) (b := 2) (by norm_num) x
  rw [Nat.cast_ofNat] at h
  exact h.trans_le (zpow_mono2 (add_le_add_left (le_max_left _ _) 1))

theorem binade_le_or {x : ℝ} (hx : 0 < x) : (2:ℝ) ^ binade x ≤ x ∨ binade x = -1022 := by
  rcases le_total (-1022) (Int.log 2 x) with h | h
  · left
    have := Int.zpow_log_le_self (R := ℝ) (b := 2) (by norm_num) hx
    rwa [Nat.cast_ofNat, ← max_eq_left h] at this
  · exact Or.inr (max_eq_right h)

theorem binade_mono {x y : ℝ} (hx : 0 < x) (h : x ≤ y) : binade x ≤ binade y :=
  max_le_max (Int.log_mono_right hx h) le_rfl

theorem round_mono {a b : ℝ} (h : a ≤ b) : round a ≤ round b := by
  rw [round_eq, round_eq]; exact Int.floor_mono (by linarith)

/-- the scaled argument rounds to a significand in `[0, 2^53]` -/
theorem round_scaled_nonneg {x : ℝ} (hx : 0 ≤ x) : 0 ≤ round (x / 2 ^ uexp x) := by
  have := round_mono (div_nonneg hx (two_zpow_pos (uexp x)).le)
  rwa [round_zero] at this

theorem round_scaled_le (x : ℝ) : round (x / 2 ^ uexp x) ≤ 2 ^ 53 := by
  have h : x / 2 ^ uexp x ≤ ((2 ^ 53 : ℤ) : ℝ) := by
    rw [cast_pow53, div_le_iff₀ (two_zpow_pos _), grid_top]; exact (lt_binade_succ x).le
  have := round_mono h
  rwa [round_intCast] at this

theorem le_round_scaled {x : ℝ} (h : (2:ℝ) ^ binade x ≤ x) : 2 ^ 52 ≤ round (x / 2 ^ uexp x) := by
  have hs : ((2 ^ 52 : ℤ) : ℝ) ≤ x / 2 ^ uexp x := by
    rwa [cast_pow52, le_div_iff₀ (two_zpow_pos _), grid_bot]
  have := round_mono hs
  rwa [round_intCast] at this

theorem rpos_nonneg {x : ℝ} (hx : 0 ≤ x) : 0 ≤ rpos x :=
  mul_nonneg (Int.cast_nonneg (round_scaled_nonneg hx)) (two_zpow_pos _).le

theorem rpos_le_top (x : ℝ) : rpos x ≤ 2 ^ (binade x + 1) := by
  have h : (round (x / 2 ^ uexp x) : ℝ) ≤ 2 ^ (53:ℤ) := cast_pow53 ▸ Int.cast_le.mpr (round_scaled_le x)
  exact (mul_le_mul_of_nonneg_right h (two_zpow_pos _).le).trans_eq (grid_top x)

theorem rpos_ge_bot {x : ℝ} (h : (2:ℝ) ^ binade x ≤ x) : (2:ℝ) ^ binade x ≤ rpos x := by
  have h1 : (2:ℝ) ^ (52:ℤ) ≤ (round (x / 2 ^ uexp x) : ℝ) := cast_pow52 ▸ Int.cast_le.mpr (le_round_scaled h)
  exact (grid_bot x).symm.trans_le (mul_le_mul_of_nonneg_right h1 (two_zpow_pos _).le)

theorem rpos_zero : rpos 0 = 0 := by unfold rpos; simp

theorem rpos_mono {x y : ℝ} (hx : 0 ≤ x) (h : x ≤ y) : rpos x ≤ rpos y := by
  rcases eq_or_lt_of_le hx with h0 | hpos
  · rw [← h0, rpos_zero]; exact rpos_nonneg (le_trans hx h)
  have hb := binade_mono hpos h
  rcases eq_or_lt_of_le hb with he | hlt
  · -- same binade: same grid
    unfold rpos
    rw [show uexp x = uexp y by unfold uexp; rw [he]]
    exact mul_le_mul_of_nonneg_right
      (Int.cast_le.mpr (round_mono (div_le_div_of_nonneg_right h (two_zpow_pos _).le))) (two_zpow_pos _).le
  · -- a lower binade: the top of the one lies below the bottom of the other
    have hy : (2:ℝ) ^ binade y ≤ y := (binade_le_or (hpos.trans_le h)).resolve_right (by have := binade_ge x; omega)
    exact (rpos_le_top x).trans ((zpow_mono2 (by omega)).trans (rpos_ge_bot hy))

theorem rnd_zero : rnd 0 = 0 := by unfold rnd; simp [rpos_zero]

theorem rnd_neg (x : ℝ) : rnd (-x) = -rnd x := by
  unfold rnd
  rcases lt_trichotomy x 0 with h | h | h
  · have h1 : 0 ≤ -x := by linarith
    have h2 : ¬ 0 ≤ x := by linarith
    simp [h1, h2]
  · subst h; simp [rpos_zero]
  · have h1 : ¬ 0 ≤ -x := by linarith
    have h2 : 0 ≤ x := le_of_lt h
    simp [h1, h2]

theorem rnd_of_nonneg {x : ℝ} (h : 0 ≤ x) : rnd x = rpos x := if_pos h

theorem rnd_of_nonpos {x : ℝ} (h : x ≤ 0) : rnd x = -rpos (-x) := by
  rw [← rnd_of_nonneg (neg_nonneg.mpr h), rnd_neg, neg_neg]

theorem rnd_nonneg {x : ℝ} (h : 0 ≤ x) : 0 ≤ rnd x := by rw [rnd_of_nonneg h]; exact rpos_nonneg h

theorem rnd_mono {x y : ℝ} (h : x ≤ y) : rnd x ≤ rnd y := by
  rcases le_total 0 x with hx | hx
  · rw [rnd_of_nonneg hx, rnd_of_nonneg (hx.trans h)]; exact rpos_mono hx h
  rcases le_total 0 y with hy | hy
  · rw [rnd_of_nonpos hx]
    exact (neg_nonpos.mpr (rpos_nonneg (neg_nonneg.mpr hx))).trans (rnd_nonneg hy)
  · rw [rnd_of_nonpos hx, rnd_of_nonpos hy]
    exact neg_le_neg (rpos_mono (neg_nonneg.mpr hy) (neg_le_neg h))

theorem rpos_err (x : ℝ) : |rpos x - x| ≤ 2 ^ uexp x / 2 := by
  unfold rpos
  have hp := two_zpow_pos (uexp x)
  have e : (round (x / 2 ^ uexp x) : ℝ) * 2 ^ uexp x - x = -((x / 2 ^ uexp x - round (x / 2 ^ uexp x)) * 2 ^ uexp x) := by
    field_simp; ring
  rw [e, abs_neg, abs_mul, abs_of_pos hp]
  exact (mul_le_mul_of_nonneg_right (abs_sub_round _) hp.le).trans_eq (by ring)

/-- half the spacing is `2^-53` of `x` in the normal range and `2^-1075` at the bottom -/
theorem half_spacing_le {x : ℝ} (hx : 0 < x) : (2:ℝ) ^ uexp x / 2 ≤ x / 2 ^ 53 + 1 / 2 ^ 1075 := by
  rcases binade_le_or hx with h | h
  · refine le_add_of_le_of_nonneg ?_ (by positivity)
    have e : (2:ℝ) ^ uexp x * 2 ^ 53 = 2 ^ binade x * 2 := by
      rw [← zpow_natCast, Nat.cast_ofNat, mul_comm, grid_top, two_zpow_add, zpow_one]
    rw [div_le_div_iff₀ two_pos (by positivity), e]
    exact mul_le_mul_of_nonneg_right h zero_le_two
  · refine le_add_of_nonneg_of_le (by positivity) (le_of_eq ?_)
    have e : uexp x = -1075 + 1 := by unfold uexp; rw [h]; norm_num
    rw [e, two_zpow_add, zpow_one, mul_div_assoc, div_self two_ne_zero, mul_one, zpow_neg, zpow_ofNat, one_div]

theorem rnd_err (x : ℝ) : |rnd x - x| ≤ |x| / 2 ^ 53 + 1 / 2 ^ 1075 := by
  rcases lt_trichotomy x 0 with h | h | h
  · rw [rnd_of_nonpos h.le, abs_of_neg h, show -rpos (-x) - x = -(rpos (-x) - -x) by ring, abs_neg]
    exact (rpos_err _).trans (half_spacing_le (neg_pos.mpr h))
  · subst h; rw [rnd_zero]; simp
  · rw [rnd_of_nonneg h.le, abs_of_pos h]
    exact (rpos_err _).trans (half_spacing_le h)

/-! ### representable numbers -/

theorem rep_zero : Rep 0 := ⟨0, 0, by norm_num, by norm_num, by simp⟩

theorem rep_neg {x : ℝ} (h : Rep x) : Rep (-x) := by
  obtain ⟨m, e, hm, he, rfl⟩ := h
  exact ⟨-m, e, by rwa [abs_neg], he, by push_cast; ring⟩

theorem rep_lt_top {x : ℝ} {m e : ℤ} (hx : x = m * (2:ℝ) ^ e) : |m| < 2 ^ 53 ↔ |x| < 2 ^ (53:ℤ) * 2 ^ e := by
  rw [hx, abs_mul, abs_of_pos (two_zpow_pos e), mul_lt_mul_iff_of_pos_right (two_zpow_pos e), ← cast_pow53, ← Int.cast_abs,
    Int.cast_lt]

theorem rep_of_multiple_lt {y : ℝ} (k e : ℤ) (he : -1074 ≤ e) (hy : y = k * (2:ℝ) ^ e)
    (hlt : |y| < 2 ^ (53:ℤ) * 2 ^ e) : Rep y :=
  ⟨k, e, (rep_lt_top hy).mpr hlt, he, hy⟩

theorem int_mul_zpow (m : ℤ) {e u : ℤ} (h : u ≤ e) : ∃ k : ℤ, (m:ℝ) * 2 ^ e = k * 2 ^ u := by
  obtain ⟨n, hn⟩ := Int.eq_ofNat_of_zero_le (sub_nonneg.mpr h)
  refine ⟨m * 2 ^ n, ?_⟩
  rw [show e = n + u by omega, two_zpow_add, zpow_natCast]; push_cast; ring

/-- a positive representable number is a multiple of its own grid spacing -/
theorem uexp_le_of_rep {x : ℝ} (hx : 0 < x) {m e : ℤ} (hm : |m| < 2 ^ 53) (he : -1074 ≤ e)
    (hxe : x = m * (2:ℝ) ^ e) : uexp x ≤ e := by
  have hlt := (rep_lt_top hxe).mp hm
  rw [abs_of_pos hx, ← two_zpow_add] at hlt
  have hlog : Int.log 2 x < 53 + e := by
    rw [← Int.lt_zpow_iff_log_lt (by norm_num) hx]; rwa [Nat.cast_ofNat]
  unfold uexp binade
  rcases max_cases (Int.log 2 x) (-1022) with ⟨h1, _⟩ | ⟨h1, _⟩ <;> rw [h1] <;> omega

theorem rpos_fix {x : ℝ} (k : ℤ) (h : x = k * (2:ℝ) ^ uexp x) : rpos x = x := by
  unfold rpos
  rw [(div_eq_iff (two_zpow_pos _).ne').mpr h, round_intCast]; exact h.symm

theorem rnd_rep {x : ℝ} (h : Rep x) : rnd x = x := by
  have pos : ∀ {y : ℝ}, 0 < y → Rep y → rnd y = y := by
    intro y hy hr
    obtain ⟨m, e, hm, he, hye⟩ := hr
    rw [rnd_of_nonneg (le_of_lt hy)]
    obtain ⟨k, hk⟩ := int_mul_zpow m (uexp_le_of_rep hy hm he hye)
    exact rpos_fix k (by rw [← hk]; exact hye)
  rcases lt_trichotomy x 0 with hx | hx | hx
  · have := pos (by linarith : 0 < -x) (rep_neg h)
    rw [rnd_neg] at this; linarith
  · subst hx; exact rnd_zero
  · exact pos hx h

theorem rep_rpos (x : ℝ) (hx : 0 ≤ x) : Rep (rpos x) := by
  rcases eq_or_lt_of_le (round_scaled_le x) with he | hl
  · -- the significand rounded up to `2^53`: one exponent higher
    refine ⟨2 ^ 52, uexp x + 1, by norm_num, by have := uexp_ge x; omega, ?_⟩
    unfold rpos; rw [he, two_zpow_add]; push_cast; ring
  · exact ⟨_, uexp x, by rwa [abs_of_nonneg (round_scaled_nonneg hx)], uexp_ge x, rfl⟩

theorem rep_rnd (x : ℝ) : Rep (rnd x) := by
  unfold rnd
  split
  · exact rep_rpos x ‹_›
  · exact rep_neg (rep_rpos (-x) (by linarith))

theorem rep_nat {n : ℕ} (h : n < 2 ^ 53) : Rep (n : ℝ) :=
  ⟨n, 0, by rw [abs_of_nonneg (by positivity)]; exact_mod_cast h, by norm_num, by simp⟩

theorem rep_int {i : ℤ} (h : |i| < 2 ^ 53) : Rep (i : ℝ) := ⟨i, 0, h, by norm_num, by simp⟩

theorem rep_scale {x : ℝ} (k : ℤ) (h : Rep x) (hlo : (1 : ℝ) / 2 ^ 1000 ≤ |x * 2 ^ k|)
    (_hhi : |x * 2 ^ k| ≤ 2 ^ 1000) : Rep (x * 2 ^ k) := by
  obtain ⟨m, e, hm, he, rfl⟩ := h
  have hx : (m:ℝ) * 2 ^ e * 2 ^ k = m * 2 ^ (e + k) := by rw [mul_assoc, ← two_zpow_add]
  refine ⟨m, e + k, hm, ?_, hx⟩
  -- below exponent `-1074` the number would be smaller than `2^53 · 2^-1075 < 2^-1000`
  by_contra hc
  have hlt := (rep_lt_top hx).mp hm
  rw [← two_zpow_add] at hlt
  have h2 : (1:ℝ) / 2 ^ 1000 = 2 ^ (-1000:ℤ) := by rw [zpow_neg, zpow_ofNat, one_div]
  rw [h2] at hlo
  exact absurd (hlo.trans_lt hlt) (not_lt.mpr (zpow_mono2 (by omega)))

/-- an integer combination `a − q·b` of representable numbers that is no larger than either of them is representable: it is a
    multiple of the finer of the two grids, and below `2^53` steps of it -/
theorem rep_sub_int_mul {a b : ℝ} (q : ℤ) (ha : Rep a) (hb : Rep b)
    (h1 : |a - (q : ℝ) * b| ≤ |a|) (h2 : |a - (q : ℝ) * b| ≤ |b|) : Rep (a - (q : ℝ) * b) := by
  obtain ⟨ma, ea, hma, hea, hae⟩ := ha
  obtain ⟨mb, eb, hmb, heb, hbe⟩ := hb
  rcases le_total ea eb with h | h
  · obtain ⟨k, hk⟩ := int_mul_zpow mb h
    exact rep_of_multiple_lt (ma - q * k) ea hea (by rw [hbe, hk, hae]; push_cast; ring)
      (h1.trans_lt ((rep_lt_top hae).mp hma))
  · obtain ⟨k, hk⟩ := int_mul_zpow ma h
    exact rep_of_multiple_lt (k - q * mb) eb heb (by rw [hae, hk, hbe]; push_cast; ring)
      (h2.trans_lt ((rep_lt_top hbe).mp hmb))

theorem rep_sub_sterbenz {a b : ℝ} (ha : Rep a) (hb : Rep b) (h1 : b / 2 ≤ a) (h2 : a ≤ 2 * b) :
    Rep (a - b) := by
  have h := rep_sub_int_mul 1 ha hb
  rw [Int.cast_one, one_mul, abs_of_nonneg (show 0 ≤ a by linarith), abs_of_nonneg (show 0 ≤ b by linarith)] at h
  exact h (abs_le.mpr ⟨by linarith, by linarith⟩) (abs_le.mpr ⟨by linarith, by linarith⟩)

theorem rep_fmod {a b : ℝ} (ha : Rep a) (hb : Rep b) (ha0 : 0 ≤ a) (hb0 : 0 < b) :
    Rep (a - (⌊a / b⌋ : ℝ) * b) := by
  have hq : (0:ℝ) ≤ (⌊a / b⌋ : ℝ) * b :=
    mul_nonneg (Int.cast_nonneg (Int.floor_nonneg.mpr (div_nonneg ha0 hb0.le))) hb0.le
  have hr0 : 0 ≤ a - (⌊a / b⌋ : ℝ) * b := sub_nonneg.mpr ((le_div_iff₀ hb0).mp (Int.floor_le _))
  have hrb : a - (⌊a / b⌋ : ℝ) * b < b := by
    have := (div_lt_iff₀ hb0).mp (Int.lt_floor_add_one (a / b)); linarith
  refine rep_sub_int_mul _ ha hb ?_ ?_ <;> rw [abs_of_nonneg hr0]
  · rw [abs_of_nonneg ha0]; linarith
  · rw [abs_of_pos hb0]; exact hrb.le

theorem rep_int_fn (f : ℝ → ℤ) (hint : ∀ n : ℤ, f n = n) (hmono : ∀ {x y : ℝ}, x ≤ y → f x ≤ f y)
    {x : ℝ} (h : Rep x) : Rep (f x : ℝ) := by
  obtain ⟨m, e, hm, he, hxe⟩ := h
  rcases le_or_gt 0 e with h0 | h0
  · -- `x` is itself an integer
    obtain ⟨k, hk⟩ := int_mul_zpow m h0
    rw [zpow_zero, mul_one] at hk
    rw [hxe, hk, hint, ← hk, ← hxe]; exact ⟨m, e, hm, he, hxe⟩
  · -- `|x| < 2^52`, and so is `|f x|`
    have hx := ((rep_lt_top hxe).mp hm).trans_le ((two_zpow_add _ _).symm.trans_le (zpow_mono2 (show 53 + e ≤ 52 by omega)))
    rw [abs_lt, ← cast_pow52, ← Int.cast_neg] at hx
    have hu := hmono hx.2.le
    have hl := hmono hx.1.le
    rw [hint] at hu hl
    exact rep_int (abs_lt.mpr ⟨by omega, by omega⟩)

theorem rep_floor {x : ℝ} (h : Rep x) : Rep (⌊x⌋ : ℝ) :=
  rep_int_fn (fun y => ⌊y⌋) (fun n => Int.floor_intCast n) (fun h => Int.floor_mono h) h

theorem rep_ceil {x : ℝ} (h : Rep x) : Rep (⌈x⌉ : ℝ) :=
  rep_int_fn (fun y => ⌈y⌉) (fun n => Int.ceil_intCast n) (fun h => Int.ceil_mono h) h

theorem rep_round {x : ℝ} (h : Rep x) : Rep (round x : ℝ) :=
  rep_int_fn (fun y => round y) (fun n => round_intCast n) (fun h => round_mono h) h

theorem rep_one : Rep 1 := by simpa using rep_nat (n := 1) (by norm_num)

/-- `x - trunc x` for non-negative `x`: the remainder of `x` by `1` -/
theorem rep_fract_nonneg {x : ℝ} (h : Rep x) (hx : 0 ≤ x) : Rep (x - (⌊x⌋ : ℝ)) := by
  simpa using rep_fmod h rep_one hx one_pos

end
end GeonumModel.R53
