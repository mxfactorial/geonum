/-
  GeonumModel.Lemmas.FloatCartesian — B-tier for the magnitude of `Geonum::new_from_cartesian` (fix 9118133): `√(x·x + y·y)` when the sum of
  squares is a normal number, else `s·√((x/s)² + (y/s)²)` with `s = max(|x|, |y|)`.  The rescaled branch runs the same root on the
  quotients, whose sum of squares is at least one.
-/
import GeonumModel.Lemmas.Polar
import GeonumModel.Lemmas.SumMagFloat

namespace GeonumModel
open FloatLike FloatSpec
variable {F : Type} [FloatSpec F]

namespace Geonum

theorem sqrt_rel_half {S Q r : ℝ} (hS0 : 0 ≤ S) (hQ0 : 0 ≤ Q) (hr0 : 0 ≤ r) (hr : r ≤ 1 / 100) (h : |S - Q| ≤ Q * r) :
    |Real.sqrt S - Real.sqrt Q| ≤ Real.sqrt Q * (51 / 100 * r) := by
  rcases eq_or_lt_of_le hQ0 with hq | hq
  · rw [← hq, zero_mul, sub_zero] at h
    rw [← hq, abs_nonpos_iff.mp h]; simp
  have hsq : 0 < Real.sqrt Q := Real.sqrt_pos.mpr hq
  -- √S ≥ √Q·(1 − r), because S ≥ Q(1 − r) ≥ Q(1 − r)²
  have hlow : Real.sqrt Q * (1 - r) ≤ Real.sqrt S := by
    have h1 : Q * (1 - r) ^ 2 ≤ S := by
      have : Q * (1 - r) ^ 2 ≤ Q * (1 - r) :=
        mul_le_mul_of_nonneg_left (pow_le_of_le_one (by linarith only [hr]) (by linarith only [hr0]) two_ne_zero) hQ0
      linarith only [(abs_le.mp h).1, this]
    have := Real.sqrt_le_sqrt h1
    rwa [Real.sqrt_mul hQ0, Real.sqrt_sq (by linarith only [hr])] at this
  have hmul : (Real.sqrt S - Real.sqrt Q) * (Real.sqrt S + Real.sqrt Q) = S - Q := by
    linear_combination Real.mul_self_sqrt hS0 - Real.mul_self_sqrt hQ0
  have habs : |Real.sqrt S - Real.sqrt Q| * (Real.sqrt S + Real.sqrt Q) = |S - Q| := by
    rw [← hmul, abs_mul, abs_of_pos (by linarith only [Real.sqrt_nonneg S, hsq] : 0 < Real.sqrt S + Real.sqrt Q)]
  have hden : Real.sqrt Q * (199 / 100) ≤ Real.sqrt S + Real.sqrt Q := by
    linarith only [mul_le_mul_of_nonneg_left hr hsq.le, hlow]
  have h3 : |Real.sqrt S - Real.sqrt Q| * (Real.sqrt Q * (199 / 100)) ≤ Real.sqrt Q * Real.sqrt Q * r :=
    calc _ ≤ |Real.sqrt S - Real.sqrt Q| * (Real.sqrt S + Real.sqrt Q) := mul_le_mul_of_nonneg_left hden (abs_nonneg _)
      _ = |S - Q| := habs
      _ ≤ Q * r := h
      _ = Real.sqrt Q * Real.sqrt Q * r := by rw [Real.mul_self_sqrt hQ0]
  have hQr : 0 ≤ Real.sqrt Q * r := mul_nonneg hsq.le hr0
  refine le_of_mul_le_mul_right (a := Real.sqrt Q) ?_ hsq
  linarith only [mul_nonneg hsq.le hQr, h3]

/-- the rounded root `w` of a radicand `S ≈ Q` in the normal range: normality (`τ ≤ ε·S`) absorbs the absolute part of the radicand's error,
    the root halves the relative part -/
theorem sqrt_normal_real {S Q w ε τ : ℝ} (hS0 : 0 ≤ S) (hQ0 : 0 ≤ Q) (hε0 : 0 ≤ ε) (hε1 : ε ≤ 1 / 1000) (hN : τ ≤ ε * S)
    (h1 : |S - Q| ≤ 3 * Q * ε + 5 * τ) (hw : |w - Real.sqrt S| ≤ |Real.sqrt S| * ε + τ) :
    |w - Real.sqrt Q| ≤ Real.sqrt Q * (6 * ε) + τ := by
  -- with `d = |S − Q|`: `d ≤ 3Qε + 5ε(Q + d)`
  have hSQ : |S - Q| ≤ Q * (9 * ε) := by
    have h2 := mul_le_mul_of_nonneg_left (show S ≤ Q + |S - Q| by linarith only [le_abs_self (S - Q)]) hε0
    have h3 := mul_le_mul_of_nonneg_right hε1 (abs_nonneg (S - Q))
    linarith only [h1, hN, h2, h3, mul_nonneg hQ0 hε0]
  have hroot : |Real.sqrt S - Real.sqrt Q| ≤ |Real.sqrt Q| * (51 / 100 * (9 * ε)) + 0 := by
    rw [abs_of_nonneg (Real.sqrt_nonneg Q), add_zero]
    exact sqrt_rel_half hS0 hQ0 (by linarith only [hε0]) (by linarith only [hε1]) hSQ
  have h := approx_trans hε0 hroot hw
  have hεε := mul_le_mul_of_nonneg_left hε1 hε0
  have h6 := mul_le_mul_of_nonneg_left (show 51 / 100 * (9 * ε) + ε + 51 / 100 * (9 * ε) * ε ≤ 6 * ε by linarith only [hεε, hε0])
    (abs_nonneg (Real.sqrt Q))
  rw [abs_of_nonneg (Real.sqrt_nonneg Q)] at h h6
  linarith only [h, h6]

theorem sumsq_float {x y : F} (hx : Fin x) (hy : Fin y) (hx1 : |val x| ≤ 10 ^ 120) (hy1 : |val y| ≤ 10 ^ 120) :
    Fin (fadd (fmul x x) (fmul y y)) ∧ 0 ≤ val (fadd (fmul x x) (fmul y y)) ∧
    |val (fadd (fmul x x) (fmul y y)) - (val x * val x + val y * val y)|
      ≤ 3 * (val x * val x + val y * val y) * (1 / 2 ^ 53) + 5 * (1 / 2 ^ 1075) := by
  obtain ⟨hfa, hva, ha1⟩ := fmul_bd hx hx hx1 hx1 (by norm_num)
  obtain ⟨hfb, hvb, hb1⟩ := fmul_bd hy hy hy1 hy1 (by norm_num)
  obtain ⟨hfs, hvs, _⟩ := fadd_bd hfa hfb ha1 hb1 (by norm_num)
  have ea := rnd_rel (F := F) (val x * val x); rw [← hva, abs_of_nonneg (mul_self_nonneg (val x))] at ea
  have eb := rnd_rel (F := F) (val y * val y); rw [← hvb, abs_of_nonneg (mul_self_nonneg (val y))] at eb
  have es := rnd_rel (F := F) (val (fmul x x) + val (fmul y y)); rw [← hvs] at es
  have h0 : 0 ≤ val (fmul x x) + val (fmul y y) := by
    rw [hva, hvb]; exact add_nonneg (rnd_nonneg (mul_self_nonneg _)) (rnd_nonneg (mul_self_nonneg _))
  exact ⟨hfs, hvs ▸ rnd_nonneg h0, radicand_step1 (by positivity) (by norm_num) (by positivity) ea eb es⟩

/-- **`√(x·x + y·y)` in rounded arithmetic when the rounded sum of squares is a normal number**: the true length within `6·2⁻⁵³`
    relative plus `2⁻¹⁰⁷⁵` (the three roundings under the root count half, normality absorbs their subnormal parts) -/
theorem hypot_normal_float {x y : F} (hx : Fin x) (hy : Fin y) (hx1 : |val x| ≤ 10 ^ 120) (hy1 : |val y| ≤ 10 ^ 120)
    (hn : FloatLike.isNormal (fadd (fmul x x) (fmul y y)) = true) :
    Fin (sqrt (fadd (fmul x x) (fmul y y))) ∧
    |val (sqrt (fadd (fmul x x) (fmul y y))) - Real.sqrt (val x * val x + val y * val y)|
      ≤ Real.sqrt (val x * val x + val y * val y) * (6 * (1 / 2 ^ 53)) + 1 / 2 ^ 1075 := by
  obtain ⟨hfs, hS0, h1⟩ := sumsq_float hx hy hx1 hy1
  obtain ⟨hfm, hvm⟩ := sqrt_spec hfs hS0
  have hnorm := (isNormal_spec hfs).mp hn
  rw [abs_of_nonneg hS0] at hnorm
  -- normality: `2⁻¹⁰⁷⁵ = 2⁻⁵³·2⁻¹⁰²² ≤ 2⁻⁵³·S`
  have hN : (1:ℝ) / 2 ^ 1075 ≤ 1 / 2 ^ 53 * val (fadd (fmul x x) (fmul y y)) := by
    rw [show (1:ℝ) / 2 ^ 1075 = 1 / 2 ^ 53 * (1 / 2 ^ 1022) by rw [show (1075:ℕ) = 53 + 1022 by norm_num, pow_add]; field_simp]
    exact mul_le_mul_of_nonneg_left hnorm (by positivity)
  have hw := rnd_rel (F := F) (Real.sqrt (val (fadd (fmul x x) (fmul y y)))); rw [← hvm] at hw
  exact ⟨hfm, sqrt_normal_real hS0 (add_nonneg (mul_self_nonneg _) (mul_self_nonneg _)) (by positivity) (by norm_num) hN h1 hw⟩

/-- **the direct branch of `Geonum::new_from_cartesian` in rounded arithmetic**: when the sum of squares is a normal number the
    magnitude `√(x·x + y·y)` is the true length to within `8·2⁻⁵³` relative plus `2⁻¹⁰⁷⁵` -/
theorem direct_mag_float {x y : F} (hx : Fin x) (hy : Fin y) (hx1 : |val x| ≤ 10 ^ 120) (hy1 : |val y| ≤ 10 ^ 120)
    (hn : FloatLike.isNormal (fadd (fmul x x) (fmul y y)) = true) :
    Fin (sqrt (fadd (fmul x x) (fmul y y))) ∧
    |val (sqrt (fadd (fmul x x) (fmul y y))) - Real.sqrt (val x * val x + val y * val y)|
      ≤ Real.sqrt (val x * val x + val y * val y) * (8 * (1 / 2 ^ 53)) + 1 / 2 ^ 1075 := by
  obtain ⟨hf, h⟩ := hypot_normal_float hx hy hx1 hy1 hn
  exact ⟨hf, le_trans h (add_le_add_left (mul_le_mul_of_nonneg_left (by norm_num) (Real.sqrt_nonneg _)) _)⟩

/-- the quotients by the larger component lie in `[-1, 1]`, and the larger one is `±1` -/
theorem quot_max {x y S : ℝ} (hS : S = max |x| |y|) (h0 : 0 < S) :
    |x / S| ≤ 1 ∧ |y / S| ≤ 1 ∧ 1 ≤ x / S * (x / S) + y / S * (y / S) := by
  have hx : |x / S| ≤ 1 := by rw [abs_div, abs_of_pos h0, div_le_one h0, hS]; exact le_max_left _ _
  have hy : |y / S| ≤ 1 := by rw [abs_div, abs_of_pos h0, div_le_one h0, hS]; exact le_max_right _ _
  refine ⟨hx, hy, ?_⟩
  rw [← abs_mul_abs_self (x / S), ← abs_mul_abs_self (y / S), abs_div, abs_div, abs_of_pos h0]
  rcases max_choice |x| |y| with h | h
  · rw [show |x| = S by rw [hS, h], div_self h0.ne']; linarith [mul_self_nonneg (|y| / S)]
  · rw [show |y| = S by rw [hS, h], div_self h0.ne']; linarith [mul_self_nonneg (|x| / S)]

theorem hypot_scale {x y S : ℝ} (hS : 0 < S) :
    Real.sqrt (x * x + y * y) = S * Real.sqrt (x / S * (x / S) + y / S * (y / S)) := by
  rw [show x * x + y * y = S ^ 2 * (x / S * (x / S) + y / S * (y / S)) by field_simp, Real.sqrt_mul (sq_nonneg _),
    Real.sqrt_sq hS.le]

/-- the quotients' part of the rescaled branch, in real numbers: with `|p|, |q| ≤ 1 ≤ p² + q²`, one rounding each for `u ≈ p`, `v ≈ q`
    and `t` the rounded sum of squares of `u`, `v`: the length of `(u, v)` is that of `(p, q)` to within `2ε + 2τ`, `t` stays above `1/2`,
    and a root `w` as accurate as that of `hypot_normal_float` stays below 2 -/
theorem unit_part_real {p q u v t ε τ : ℝ} (hε0 : 0 ≤ ε) (hε1 : ε ≤ 1 / 1000) (hτ : τ ≤ 1 / 1000)
    (hp : |p| ≤ 1) (hq : |q| ≤ 1) (hu1 : |u| ≤ 1) (hv1 : |v| ≤ 1) (hmax : 1 ≤ p * p + q * q)
    (eu : |u - p| ≤ |p| * ε + τ) (ev : |v - q| ≤ |q| * ε + τ)
    (et : |t - (u * u + v * v)| ≤ 3 * (u * u + v * v) * ε + 5 * τ) :
    |Real.sqrt (u * u + v * v) - Real.sqrt (p * p + q * q)| ≤ 2 * ε + 2 * τ ∧ 1 ≤ Real.sqrt (p * p + q * q) ∧ 1 / 2 ≤ t ∧
    ∀ w : ℝ, |w - Real.sqrt (u * u + v * v)| ≤ Real.sqrt (u * u + v * v) * (6 * ε) + τ → |w| ≤ 2 := by
  have hU : |Real.sqrt (u * u + v * v) - Real.sqrt (p * p + q * q)| ≤ 2 * ε + 2 * τ := by
    refine le_trans (Exact.hypot_sub_le _ _ _ _) ?_
    linarith only [eu, ev, mul_le_mul_of_nonneg_right hp hε0, mul_le_mul_of_nonneg_right hq hε0]
  have hL1 : 1 ≤ Real.sqrt (p * p + q * q) := Real.one_le_sqrt.mpr hmax
  have h99 : (99:ℝ) / 100 ≤ Real.sqrt (u * u + v * v) := by linarith only [(abs_le.mp hU).1, hL1, hε1, hτ]
  have hlo := (Real.le_sqrt' (show (0:ℝ) < 99 / 100 by norm_num)).mp h99
  have hhi : u * u + v * v ≤ 2 := by
    linarith only [abs_le_one_iff_mul_self_le_one.mp hu1, abs_le_one_iff_mul_self_le_one.mp hv1]
  have hUε := mul_le_mul hhi hε1 hε0 (by norm_num)
  refine ⟨hU, hL1, by linarith only [(abs_le.mp et).1, hlo, hUε, hτ], fun w hw => ?_⟩
  have hU32 : Real.sqrt (u * u + v * v) ≤ 3 / 2 := by rw [Real.sqrt_le_left (by norm_num)]; linarith only [hhi]
  have h1 := abs_sub_abs_le_abs_sub w (Real.sqrt (u * u + v * v))
  rw [abs_of_nonneg (Real.sqrt_nonneg _)] at h1
  have h2 := mul_le_mul hU32 (show 6 * ε ≤ 6 / 1000 by linarith only [hε1]) (by linarith only [hε0]) (by norm_num)
  linarith only [h1, h2, hw, hτ, hU32]

/-- the rescaled branch assembled: `U ≈ L` (the quotients' roundings), `w ≈ U` (the root), `m ≈ S·w` (the final product), with `L ≥ 1`
    turning every absolute error into a relative one -/
theorem rescale_assemble {S L U w m ε τ : ℝ} (hS : 0 < S) (hL1 : 1 ≤ L) (hε0 : 0 ≤ ε) (hε1 : ε ≤ 1 / 1000)
    (hτ : τ ≤ ε / 100) (hU : |U - L| ≤ 2 * ε + 2 * τ) (hw : |w - U| ≤ U * (6 * ε) + τ) (hm : |m - S * w| ≤ |S * w| * ε + τ) :
    |m - S * L| ≤ S * L * (11 * ε) + τ := by
  have hL0 : 0 ≤ L := le_trans zero_le_one hL1
  have hεε : ε * ε ≤ ε * (1 / 1000) := mul_le_mul_of_nonneg_left hε1 hε0
  have hwL : |w - L| ≤ L * (81 / 10 * ε) := by
    have hLε : ε ≤ L * ε := le_mul_of_one_le_left hε0 hL1
    have hUle : U ≤ L + 3 * ε := by linarith only [(abs_le.mp hU).2, hτ, hε0]
    have hU6 := mul_le_mul_of_nonneg_right hUle (show 0 ≤ 6 * ε by linarith only [hε0])
    linarith only [abs_sub_le w U L, hw, hU, hU6, hεε, hLε, hτ, hε0]
  have hB : |S * w - S * L| ≤ |S * L| * (81 / 10 * ε) + 0 := by
    rw [← mul_sub, abs_mul, abs_mul, abs_of_pos hS, abs_of_nonneg hL0, add_zero, mul_assoc]
    exact mul_le_mul_of_nonneg_left hwL hS.le
  have h := approx_trans hε0 hB hm
  rw [abs_mul, abs_of_pos hS, abs_of_nonneg hL0] at h
  have h11 := mul_le_mul_of_nonneg_left (show 81 / 10 * ε + ε + 81 / 10 * ε * ε ≤ 11 * ε by linarith only [hεε, hε0])
    (mul_nonneg hS.le hL0)
  linarith only [h, h11]

/-- **the rescaled branch of `Geonum::new_from_cartesian` in rounded arithmetic**: for every finite vector with `0 < max(|x|,|y|) ≤ 1e120`,
    `s·√((x/s)² + (y/s)²)` with `s = max(|x|,|y|)` is finite and is the true length `√(x² + y²)` to within `11·2⁻⁵³` relative plus the
    subnormal absolute error `2⁻¹⁰⁷⁵` — whatever the scale (no overflow of the squares, no loss of a tiny vector) -/
theorem rescaled_mag_float {x y : F} (hx : Fin x) (hy : Fin y) (hs0 : 0 < max |val x| |val y|) (hs1 : max |val x| |val y| ≤ 10 ^ 120) :
    Fin (fmul (fmax (fabs x) (fabs y)) (sqrt (fadd (fmul (fdiv x (fmax (fabs x) (fabs y))) (fdiv x (fmax (fabs x) (fabs y))))
          (fmul (fdiv y (fmax (fabs x) (fabs y))) (fdiv y (fmax (fabs x) (fabs y))))))) ∧
    |val (fmul (fmax (fabs x) (fabs y)) (sqrt (fadd (fmul (fdiv x (fmax (fabs x) (fabs y))) (fdiv x (fmax (fabs x) (fabs y))))
          (fmul (fdiv y (fmax (fabs x) (fabs y))) (fdiv y (fmax (fabs x) (fabs y)))))))
        - Real.sqrt (val x * val x + val y * val y)|
      ≤ Real.sqrt (val x * val x + val y * val y) * (11 * (1 / 2 ^ 53)) + 1 / 2 ^ 1075 := by
  obtain ⟨hfax, hvax⟩ := fabs_spec hx
  obtain ⟨hfay, hvay⟩ := fabs_spec hy
  obtain ⟨hfs, hvs⟩ := fmax_spec hfax hfay
  rw [hvax, hvay] at hvs
  generalize fmax (fabs x) (fabs y) = sF at *
  obtain ⟨S, hS⟩ : ∃ S : ℝ, S = max |val x| |val y| := ⟨_, rfl⟩
  rw [← hS] at hvs hs0 hs1
  have hSne : val sF ≠ 0 := by rw [hvs]; exact ne_of_gt hs0
  obtain ⟨hp1, hq1, hmax⟩ := quot_max hS hs0
  -- the rounded quotients stay in `[-1, 1]`
  obtain ⟨hfu, hvu⟩ := fdiv_spec hx hfs hSne (by rw [hvs]; apply inRange_of_abs_le_1000; linarith)
  obtain ⟨hfv, hvv⟩ := fdiv_spec hy hfs hSne (by rw [hvs]; apply inRange_of_abs_le_1000; linarith)
  rw [hvs] at hvu hvv
  have hub : |val (fdiv x sF)| ≤ 1 := by rw [hvu]; exact abs_rnd_le rep_one hp1
  have hvb : |val (fdiv y sF)| ≤ 1 := by rw [hvv]; exact abs_rnd_le rep_one hq1
  have eu := rnd_rel (F := F) (val x / S); rw [← hvu] at eu
  have ev := rnd_rel (F := F) (val y / S); rw [← hvv] at ev
  -- their sum of squares is about one, hence normal, and the root is that of the direct branch
  obtain ⟨hft, ht0, et⟩ := sumsq_float hfu hfv (le_trans hub (by norm_num)) (le_trans hvb (by norm_num))
  have hτ3 : (1:ℝ) / 2 ^ 1075 ≤ 1 / 1000 := le_trans tiny_1075 (by norm_num)
  obtain ⟨hU, hL1, ht, hw2⟩ := unit_part_real (by positivity) (by norm_num) hτ3 hp1 hq1 hub hvb hmax eu ev et
  have hn : FloatLike.isNormal (fadd (fmul (fdiv x sF) (fdiv x sF)) (fmul (fdiv y sF) (fdiv y sF))) = true := by
    rw [isNormal_spec hft, abs_of_nonneg ht0]
    exact le_trans (one_div_le_one_div_of_le two_pos (le_self_pow₀ one_le_two (by norm_num))) ht
  obtain ⟨hfw, hw⟩ := hypot_normal_float hfu hfv (le_trans hub (by norm_num)) (le_trans hvb (by norm_num)) hn
  obtain ⟨hfm, hvm, _⟩ := fmul_bd (X := 10 ^ 120) hfs hfw (by rwa [hvs, abs_of_pos hs0]) (hw2 _ hw) (by norm_num)
  have em := rnd_rel (F := F) (val sF * val (sqrt (fadd (fmul (fdiv x sF) (fdiv x sF)) (fmul (fdiv y sF) (fdiv y sF)))))
  rw [← hvm, hvs] at em
  rw [hypot_scale hs0]
  exact ⟨hfm, rescale_assemble hs0 hL1 (by positivity) (by norm_num) (le_trans tiny_1075 (by norm_num)) hU hw em⟩

end Geonum
end GeonumModel
