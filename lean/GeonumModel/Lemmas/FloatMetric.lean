/-
  GeonumModel.Lemmas.FloatMetric — B-tier corollaries: `distance_to` against the TRUE Euclidean distance (hence symmetry and the
  triangle inequality up to the stated slack), symmetry of the dot value, sums under whole turns on an operand.
-/
import GeonumModel.Lemmas.FloatSumCart
import GeonumModel.Lemmas.Shift

namespace GeonumModel
open FloatLike FloatSpec
variable {F : Type} [FloatSpec F]
namespace Geonum
open Angle

/-- true Euclidean distance of two polar points -/
noncomputable def euclid (A B s t : ℝ) : ℝ := Real.sqrt (A * A + B * B - 2 * A * B * Real.cos (t - s))

theorem euclid_dist (A B s t : ℝ) : euclid A B s t = dist (Exact.polar A s) (Exact.polar B t) := by
  rw [Complex.dist_eq, Complex.norm_def, Exact.normSq_polar_sub]; rfl

theorem euclid_symm (A B s t : ℝ) : euclid A B s t = euclid B A t s := by
  rw [euclid_dist, euclid_dist, dist_comm]

theorem euclid_triangle (A B C s t u : ℝ) : euclid A C s u ≤ euclid A B s t + euclid B C t u := by
  rw [euclid_dist, euclid_dist, euclid_dist]; exact dist_triangle _ _ _

/-- **`distance_to` in rounded arithmetic against the true Euclidean distance** of the two Cartesian points (true π): within
    `(|a|+|b|)·1.1e-5 + 1e-90` — the `2⁻²⁴ + 2⁻⁵⁰` of `distance_float` plus `1.0001e-5 ≥ √(2e-10/2)` for the `1e-10` snap of the angle
    difference under the square root -/
theorem distance_true {a b : Geonum F} (ha : a.angle.Inv) (hb : b.angle.Inv) (hma : a.MagDom) (hmb : b.MagDom) :
    |val (a.distanceTo b).mag - euclid (val a.mag) (val b.mag) (Tpi a.angle) (Tpi b.angle)|
      ≤ (val a.mag + val b.mag) * (11 / 10 ^ 6) + 1 / 10 ^ 90 := by
  have hfg := gradeAngle_fin (geometricSub_inv hb ha)
  have he11 := (val_e10_bounds (F := F)).2
  -- `−c` in place of `c`: the distance is the law of cosines with the negated cosine
  have hp := sqrt_lawcos_perturb (c := -val (FloatLike.cos (b.angle.sub a.angle).gradeAngle))
    (C := -Real.cos (Tpi b.angle - Tpi a.angle)) (d := 2 / 10 ^ 10) hma.2.1 hmb.2.1 (by rw [abs_neg]; exact (cos_spec hfg).2.1)
    (by rw [abs_neg]; exact Real.abs_cos_le_one _)
    (by rw [neg_sub_neg, abs_sub_comm]; exact le_trans (cos_sub_float ha hb).1 (by linarith only [he11]))
    (by norm_num : (0:ℝ) ≤ 10001 / 10 ^ 9) (by norm_num)
  simp only [mul_neg, ← sub_eq_add_neg] at hp
  refine (abs_sub_le_add (Geonum.distance_float hma hmb hfg) hp).trans ?_
  linarith only [mul_le_mul_of_nonneg_left (by norm_num : (1:ℝ) / 2 ^ 24 + 1 / 2 ^ 50 + 10001 / 10 ^ 9 ≤ 11 / 10 ^ 6)
    (add_nonneg hma.2.1 hmb.2.1)]

theorem distance_symm_float {a b : Geonum F} (ha : a.angle.Inv) (hb : b.angle.Inv) (hma : a.MagDom) (hmb : b.MagDom) :
    |val (a.distanceTo b).mag - val (b.distanceTo a).mag| ≤ 2 * ((val a.mag + val b.mag) * (11 / 10 ^ 6) + 1 / 10 ^ 90) := by
  have h2 := distance_true hb ha hmb hma
  rw [euclid_symm, add_comm (val b.mag)] at h2
  exact abs_sub_le_two (distance_true ha hb hma hmb) h2

theorem distance_triangle_float {a b c : Geonum F} (ha : a.angle.Inv) (hb : b.angle.Inv) (hc : c.angle.Inv)
    (hma : a.MagDom) (hmb : b.MagDom) (hmc : c.MagDom) :
    val (a.distanceTo c).mag ≤ val (a.distanceTo b).mag + val (b.distanceTo c).mag
      + ((val a.mag + val c.mag) + (val a.mag + val b.mag) + (val b.mag + val c.mag)) * (11 / 10 ^ 6) + 3 / 10 ^ 90 := by
  linarith only [(abs_le.mp (distance_true ha hc hma hmc)).2, (abs_le.mp (distance_true ha hb hma hmb)).1,
    (abs_le.mp (distance_true hb hc hmb hmc)).1,
    euclid_triangle (val a.mag) (val b.mag) (val c.mag) (Tpi a.angle) (Tpi b.angle) (Tpi c.angle)]

/-- **`|a − b|` in rounded arithmetic is the true Euclidean distance** (general branch of the underlying sum) to within
    `(|a|+|b|)·1.5e-7`: with `distance_true`, "the distance equals `|a − b|`" holds up to the two bounds -/
theorem sub_mag_true {a b : Geonum F} (ha : a.angle.Inv) (hb : b.angle.Inv) (hma : a.MagDom) (hmb : b.MagDom)
    (h1 : sameAngle a b.negate = false) (h2 : oppositeAngle a b.negate = false) :
    |val (a.sub b).mag - euclid (val a.mag) (val b.mag) (Tpi a.angle) (Tpi b.angle)|
      ≤ (val a.mag + val b.mag) * (15 / 10 ^ 8) + 1 / 10 ^ 90 := by
  have h := sum_mag_true ha (negate_inv hb) hma (show b.negate.MagDom from hmb) h1 h2
  rw [show Tpi b.negate.angle = Tpi b.angle + Real.pi from Tpi_negate hb, show val b.negate.mag = val b.mag from rfl,
    add_sub_right_comm, Real.cos_add_pi, mul_neg, ← sub_eq_add_neg] at h
  exact h

theorem dot_symm_float {a b : Geonum F} (ha : a.angle.Inv) (hb : b.angle.Inv) (hma : a.MagDom) (hmb : b.MagDom) :
    |val (fmul (fmul a.mag b.mag) (FloatLike.cos (b.angle.geometricSub a.angle).gradeAngle))
      - val (fmul (fmul b.mag a.mag) (FloatLike.cos (a.angle.geometricSub b.angle).gradeAngle))|
      ≤ 2 * (val a.mag * val b.mag * (val (e10 : F) + 1 / 10 ^ 14) + 1 / 10 ^ 29) := by
  have h2 := Geonum.dot_value_float hb ha hmb hma
  rw [← neg_sub (Tpi b.angle), Real.cos_neg, mul_comm (val b.mag)] at h2
  exact abs_sub_le_two (Geonum.dot_value_float ha hb hma hmb) h2

theorem cartF_shift4 (g : Geonum F) (n : ℕ) : cartF (g.shift4 n) = cartF g := by
  have hT : Tpi (g.shift4 n).angle = Tpi g.angle + (n : ℝ) * (2 * Real.pi) := by
    unfold Tpi Geonum.shift4 Angle.shift4; simp only; push_cast; ring
  have hm : (g.shift4 n).mag = g.mag := rfl
  simp only [cartF, hT, hm, Real.cos_add_nat_mul_two_pi, Real.sin_add_nat_mul_two_pi]

/-- **dimension freedom of sums in rounded arithmetic** (general branch on both sides): adding `4n` quarter turns to the first summand
    moves the Cartesian components of the sum by at most the two accuracy bounds — the result points agree although the result
    angles carry different blade histories -/
theorem sum_shift_cartesian_float {a b : Geonum F} (n : ℕ) (ha : a.angle.Inv) (hb : b.angle.Inv) (hma : a.MagDom) (hmb : b.MagDom)
    (hcb : a.angle.blade + 4 * n + b.angle.blade ≤ 2 ^ 39)
    (h1 : sameAngle a b = false) (h2 : oppositeAngle a b = false)
    (h1' : sameAngle (a.shift4 n) b = false) (h2' : oppositeAngle (a.shift4 n) b = false) :
    |val ((a.shift4 n).add b).mag * Real.cos (Tpi ((a.shift4 n).add b).angle) - val (a.add b).mag * Real.cos (Tpi (a.add b).angle)|
      ≤ 2 * ((val a.mag + val b.mag) * (2 / 10 ^ 7 + 11 / 10 * (val (e10 : F)
          + (40 * ((a.angle.blade + 4 * n + b.angle.blade : ℕ) : ℝ) + 170) * (1 / 2 ^ 53))) + 1 / 10 ^ 28) ∧
    |val ((a.shift4 n).add b).mag * Real.sin (Tpi ((a.shift4 n).add b).angle) - val (a.add b).mag * Real.sin (Tpi (a.add b).angle)|
      ≤ 2 * ((val a.mag + val b.mag) * (2 / 10 ^ 7 + 11 / 10 * (val (e10 : F)
          + (40 * ((a.angle.blade + 4 * n + b.angle.blade : ℕ) : ℝ) + 170) * (1 / 2 ^ 53))) + 1 / 10 ^ 28) := by
  have p := sum_cartF_float ha hb hma hmb (by omega) h1 h2
  have q := sum_cartF_float (a := a.shift4 n) ha hb hma hmb hcb h1' h2'
  rw [cartF_shift4] at q
  have hmono := genTol_mono (F := F) (add_nonneg hma.2.1 hmb.2.1) le_rfl (Nat.cast_nonneg _)
    (Nat.cast_le.mpr (by omega : a.angle.blade + b.angle.blade ≤ a.angle.blade + 4 * n + b.angle.blade))
  exact prod_norm_le.mp (le_trans (norm_sub_le_of_near q (le_trans p hmono)) (two_mul _).ge)

end Geonum
end GeonumModel
