/-
  GeonumModel.Lemmas.AngleStep — adding a whole number of quarter turns (S-tier): the blade-step operators, `signed_at` on a lattice
  base, and the two bases of the trigonometric gateways.
-/
import GeonumModel.Lemmas.AngleAdd
import GeonumModel.Lemmas.AngleNew

namespace GeonumModel
open FloatLike FloatSpec
variable {F : Type} [FloatSpec F]
namespace Angle

theorem add_whole_inv {a z : Angle F} (ha : a.Inv) (hzf : Fin z.rem) (hz0 : val z.rem = 0) :
    (a.geometricAdd z).Inv :=
  geometricAdd_inv ha (inv_of_val_zero hzf hz0)

theorem add_equiv_whole {a z : Angle F} {k : ℕ} (ha : a.Inv) (h : z ≈ₐ ⟨zero, k⟩) :
    (a.geometricAdd z).blade = a.blade + k ∧ Fin (a.geometricAdd z).rem ∧ val (a.geometricAdd z).rem = val a.rem :=
  h.whole.1 ▸ add_whole ha h.whole.2.1 h.whole.2.2

theorem add_quarters {a : Angle F} (ha : a.Inv) (k : ℕ) (hk : k < 2 ^ 53) :
    (a.geometricAdd (Angle.new (FloatLike.ofNat k : F) two)).blade = a.blade + k ∧
    Fin (a.geometricAdd (Angle.new (FloatLike.ofNat k : F) two)).rem ∧
    val (a.geometricAdd (Angle.new (FloatLike.ofNat k : F) two)).rem = val a.rem := by
  rw [new_nat k hk]
  exact add_whole ha fin_zero val_zero

theorem newWithBlade_zero (k : ℕ) (hk : k < 2 ^ 53) :
    Angle.newWithBlade k (zero : F) one = ⟨zero, k⟩ := by
  obtain ⟨hb, hf, hv⟩ := (new_zero_one (F := F)).whole
  unfold newWithBlade
  simp only [add, addVV]
  rw [new_nat k hk]
  obtain ⟨hfs, hvs⟩ := fadd_rep hf (fin_zero (F := F)) (by rw [hv, val_zero, add_zero]) rep_zero
    (inRange_of_abs_le_1000 (by norm_num))
  have hz : feq (fadd (Angle.new (zero : F) one).rem zero) (zero : F) = true := by
    rw [feq_spec hfs fin_zero, hvs, val_zero]
  unfold geometricAdd
  simp only [hz, if_true, hb, Nat.zero_add]

theorem dual_spec {a : Angle F} (ha : a.Inv) :
    a.dual.blade = a.blade + 2 ∧ Fin a.dual.rem ∧ val a.dual.rem = val a.rem := by
  unfold dual; simp only [add, addVV]
  rw [newWithBlade_zero 2 (by norm_num)]
  exact add_whole ha fin_zero val_zero

theorem undual_spec {a : Angle F} (ha : a.Inv) :
    a.undual.blade = a.blade + 2 ∧ Fin a.undual.rem ∧ val a.undual.rem = val a.rem := dual_spec ha

theorem negate_spec {a : Angle F} (ha : a.Inv) :
    a.negate.blade = a.blade + 2 ∧ Fin a.negate.rem ∧ val a.negate.rem = val a.rem :=
  add_equiv_whole ha new_one_one

theorem conjugate_spec {a : Angle F} (ha : a.Inv) :
    a.conjugate.blade = a.blade + 2 ∧ Fin a.conjugate.rem ∧ val a.conjugate.rem = val a.rem :=
  negate_spec ha

theorem dual_inv {a : Angle F} (ha : a.Inv) : a.dual.Inv := inv_of_spec ha (dual_spec ha).2
theorem negate_inv {a : Angle F} (ha : a.Inv) : a.negate.Inv := inv_of_spec ha (negate_spec ha).2

/-- a blade-step specification in the order the step theorems of C07 state it: count, remainder value, invariant -/
theorem step_of_spec {a r : Angle F} {k : ℕ} (ha : a.Inv) (h : r.blade = a.blade + k ∧ Fin r.rem ∧ val r.rem = val a.rem) :
    r.blade = a.blade + k ∧ val r.rem = val a.rem ∧ r.Inv :=
  ⟨h.1, h.2.2, inv_of_spec ha h.2⟩

theorem baseAngle_inv {a : Angle F} (ha : a.Inv) : a.baseAngle.Inv := ha

end Angle

namespace Geonum
open Angle

/-- on a lattice base (remainder of value 0) `signed_at` stays on the lattice -/
theorem signedAt_lattice (v : F) {base : Angle F} (hb : base.Inv) (h0 : val base.rem = 0) :
    (signedAt v base).angle.Inv ∧ val (signedAt v base).angle.rem = 0 ∧
    ((signedAt v base).angle.blade = base.blade ∨ (signedAt v base).angle.blade = base.blade + 2) := by
  by_cases h : flt v (zero : F) = true
  · rw [(signedAt_spec v base).2.2 h]
    have hw := add_equiv_whole hb (new_one_one (F := F))
    exact ⟨inv_of_spec hb hw.2, by rw [hw.2.2, h0], Or.inr hw.1⟩
  · rw [(signedAt_spec v base).2.1 (by simpa using h)]; exact ⟨hb, h0, Or.inl rfl⟩

/-- the two bases of the trigonometric gateways: `Angle::new(0, 1)` at blade 0 and `Angle::new(1, 2)` at blade 1 -/
theorem base_zero_one : (Angle.new (zero : F) one).Inv ∧ val (Angle.new (zero : F) one).rem = 0 ∧ (Angle.new (zero : F) one).blade = 0 := by
  have h := new_zero_one (F := F)
  exact ⟨h.whole_inv, h.whole.2.2, h.whole.1⟩

theorem base_one_two : (Angle.new (one : F) two).Inv ∧ val (Angle.new (one : F) two).rem = 0 ∧ (Angle.new (one : F) two).blade = 1 := by
  rw [new_one_two]; exact ⟨inv_zero 1, val_zero, rfl⟩

end Geonum
end GeonumModel
