/-
  GeonumModel.Lemmas.Polar — the point of the plane at distance `r` in direction `θ`, as a complex number: sums and products of such
  points, the polar form through `arg`, the law of cosines, the norm, the displacement along a circle.  Plain real and complex
  analysis; no arithmetic model is involved.
-/
import Mathlib.Analysis.SpecialFunctions.Complex.Arg
import Mathlib.Analysis.SpecialFunctions.Trigonometric.Bounds
import Mathlib.Tactic

namespace GeonumModel.Exact

noncomputable def polar (r θ : ℝ) : ℂ := ⟨r * Real.cos θ, r * Real.sin θ⟩

theorem polar_add_same (r s θ : ℝ) : polar r θ + polar s θ = polar (r + s) θ := by
  apply Complex.ext <;> simp [polar] <;> ring

theorem polar_add_pi (r θ : ℝ) : polar r (θ + Real.pi) = -polar r θ := by
  apply Complex.ext <;> simp [polar, Real.cos_add_pi, Real.sin_add_pi]

theorem polar_add_turns (r θ : ℝ) (m : ℤ) : polar r (θ + (m : ℝ) * (2 * Real.pi)) = polar r θ := by
  apply Complex.ext
  · simp only [polar]; rw [Real.cos_add_int_mul_two_pi]
  · simp only [polar]; rw [Real.sin_add_int_mul_two_pi]

theorem polar_zero (θ : ℝ) : polar 0 θ = 0 := by apply Complex.ext <;> simp [polar]

theorem polar_neg (r θ : ℝ) : polar (-r) θ = -polar r θ := by apply Complex.ext <;> simp [polar]

theorem polar_sub (r s θ : ℝ) : polar (r - s) θ = polar r θ - polar s θ := by
  rw [eq_sub_iff_add_eq, polar_add_same, sub_add_cancel]

theorem polar_mul (a b s t : ℝ) : polar a s * polar b t = polar (a * b) (s + t) := by
  apply Complex.ext <;> simp [polar, Complex.mul_re, Complex.mul_im, Real.cos_add, Real.sin_add] <;> ring

theorem ofReal_mul_polar (f m θ : ℝ) : (f : ℂ) * polar m θ = polar (f * m) θ := by
  apply Complex.ext <;> simp [polar, Complex.mul_re, Complex.mul_im] <;> ring

theorem polar_norm_arg (z : ℂ) : polar ‖z‖ (Complex.arg z) = z :=
  Complex.ext (Complex.norm_mul_cos_arg z) (Complex.norm_mul_sin_arg z)

/-- the law of cosines, for a sum and for a difference -/
theorem normSq_polar_add (r q s t : ℝ) :
    Complex.normSq (polar r s + polar q t) = r * r + q * q + 2 * r * q * Real.cos (t - s) := by
  rw [Complex.normSq_apply]
  simp only [polar, Complex.add_re, Complex.add_im]
  rw [Real.cos_sub]
  linear_combination r * r * Real.sin_sq_add_cos_sq s + q * q * Real.sin_sq_add_cos_sq t

theorem normSq_polar_sub (r q s t : ℝ) :
    Complex.normSq (polar r s - polar q t) = r * r + q * q - 2 * r * q * Real.cos (t - s) := by
  rw [sub_eq_add_neg, ← polar_neg, normSq_polar_add]; ring

theorem norm_polar (r θ : ℝ) : ‖polar r θ‖ = |r| := by
  have : ‖polar r θ‖ ^ 2 = |r| ^ 2 := by
    rw [Complex.sq_norm, Complex.normSq_apply, sq_abs]
    simp only [polar]
    linear_combination r ^ 2 * Real.sin_sq_add_cos_sq θ
  exact (sq_eq_sq₀ (norm_nonneg _) (abs_nonneg r)).mp this

theorem norm_polar_sub_le (r s t : ℝ) : ‖polar r s - polar r t‖ ≤ |r| * |s - t| := by
  have hsq : ‖polar r s - polar r t‖ ^ 2 ≤ (|r| * |s - t|) ^ 2 := by
    rw [Complex.sq_norm, normSq_polar_sub, mul_pow, sq_abs, sq_abs]
    have hc := Real.one_sub_sq_div_two_le_cos (x := t - s)
    have : 2 - 2 * Real.cos (t - s) ≤ (s - t) ^ 2 := by rw [← neg_sub t s, neg_sq]; linarith
    calc r * r + r * r - 2 * r * r * Real.cos (t - s) = r ^ 2 * (2 - 2 * Real.cos (t - s)) := by ring
      _ ≤ r ^ 2 * (s - t) ^ 2 := mul_le_mul_of_nonneg_left this (sq_nonneg r)
  exact abs_le_of_sq_le_sq' hsq (by positivity) |>.2

/-- `‖⟨u, v⟩‖ = √(u·u + v·v)` by definition -/
theorem hypot_sub_le (u v p q : ℝ) :
    |Real.sqrt (u * u + v * v) - Real.sqrt (p * p + q * q)| ≤ |u - p| + |v - q| :=
  (abs_norm_sub_norm_le (⟨u, v⟩ : ℂ) ⟨p, q⟩).trans (Complex.norm_le_abs_re_add_abs_im _)

theorem norm_polar_near {r s t η : ℝ} (h0 : 0 ≤ r) (h : |s - t| ≤ η) : ‖polar r s - polar r t‖ ≤ r * η :=
  (norm_polar_sub_le r s t).trans (by rw [abs_of_nonneg h0]; exact mul_le_mul_of_nonneg_left h h0)

end GeonumModel.Exact
