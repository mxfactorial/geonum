/-
  GeonumModel.Lemmas.SumMagFloat — the law of cosines under a square root in rounded arithmetic: lemmas about real variables (the
  radicand through its seven roundings, the root of a perturbed radicand), the statement about `rnd` itself (`lawcos_rnd`), and its two
  instances, the magnitude of a general-branch sum and `distance_to`.
-/
import GeonumModel.Lemmas.GeonumMag
import GeonumModel.Lemmas.RndErr

namespace GeonumModel
open FloatLike FloatSpec

theorem sqrt_sub_sqrt_le {x y : ℝ} (hx : 0 ≤ x) (hy : 0 ≤ y) : |Real.sqrt x - Real.sqrt y| ≤ Real.sqrt |x - y| := by
  apply Real.abs_le_sqrt
  have h1 := Real.mul_self_sqrt hx
  have h2 := Real.mul_self_sqrt hy
  rcases le_total y x with h | h
  · have := mul_le_mul_of_nonneg_right (Real.sqrt_le_sqrt h) (Real.sqrt_nonneg y)
    rw [abs_of_nonneg (sub_nonneg.mpr h)]
    linarith
  · have := mul_le_mul_of_nonneg_right (Real.sqrt_le_sqrt h) (Real.sqrt_nonneg x)
    rw [abs_of_nonpos (sub_nonpos.mpr h)]
    linarith

theorem sqrt_add_le' {u v : ℝ} (hu : 0 ≤ u) (hv : 0 ≤ v) : Real.sqrt (u + v) ≤ Real.sqrt u + Real.sqrt v := by
  rw [Real.sqrt_le_left (by positivity)]
  linarith [Real.sq_sqrt hu, Real.sq_sqrt hv, mul_nonneg (Real.sqrt_nonneg u) (Real.sqrt_nonneg v)]

theorem lawcos_bounds {A B c : ℝ} (hA : 0 ≤ A) (hB : 0 ≤ B) (hc : |c| ≤ 1) :
    0 ≤ A * A + B * B + 2 * A * B * c ∧ A * A + B * B + 2 * A * B * c ≤ (A + B) ^ 2 := by
  have h := abs_le.mp (abs_mul_unit_le (by positivity : (0:ℝ) ≤ 2 * A * B) hc)
  exact ⟨by linarith [sq_nonneg (A - B)], by linarith⟩

/-- `ŝ ≈ a² + b²`: two rounded squares, then their rounded sum -/
theorem radicand_step1 {A B aa bb s t e : ℝ} (he0 : 0 ≤ e) (he1 : e ≤ 1 / 4) (ht0 : 0 ≤ t)
    (h1 : |aa - A * A| ≤ A * A * e + t) (h2 : |bb - B * B| ≤ B * B * e + t)
    (h3 : |s - (aa + bb)| ≤ |aa + bb| * e + t) :
    |s - (A * A + B * B)| ≤ 3 * (A * A + B * B) * e + 5 * t := by
  have hS : 0 ≤ A * A + B * B := add_nonneg (mul_self_nonneg A) (mul_self_nonneg B)
  have h12 : |aa + bb - (A * A + B * B)| ≤ |A * A + B * B| * e + 2 * t := by
    rw [abs_of_nonneg hS, show aa + bb - (A * A + B * B) = (aa - A * A) + (bb - B * B) by ring]
    linarith [abs_add_le (aa - A * A) (bb - B * B)]
  have := approx_step (a := e) he0 (by linarith) (by linarith) (by linarith) h12 h3
  rw [abs_of_nonneg hS] at this
  linarith

/-- the law-of-cosines radicand `(a² + b²) + ((2a)b)·c` as the source associates it, under any rounding `r` of relative error `u` and
    absolute error `τ`: the seven roundings cost `12u` of `(a + b)²` -/
theorem radicand_real {r : ℝ → ℝ} {u τ A B c : ℝ} (hr : ∀ x, |r x - x| ≤ |x| * u + τ) (hu0 : 0 ≤ u) (hu1 : u ≤ 1 / 8) (hτ : 0 ≤ τ)
    (hA : 0 ≤ A) (hB : 0 ≤ B) (hc : |c| ≤ 1) :
    |r (r (r (A * A) + r (B * B)) + r (r (r (2 * A) * B) * c)) - (A * A + B * B + 2 * A * B * c)|
      ≤ (A + B) ^ 2 * (12 * u) + (8 * (τ * B) + 17 * τ) := by
  have hτB : 0 ≤ τ * B := mul_nonneg hτ hB
  have hSu : 0 ≤ (A * A + B * B) * u := mul_nonneg (add_nonneg (mul_self_nonneg A) (mul_self_nonneg B)) hu0
  have hPu : 0 ≤ A * B * u := mul_nonneg (mul_nonneg hA hB) hu0
  have e1 := hr (A * A); rw [abs_of_nonneg (mul_self_nonneg A)] at e1
  have e2 := hr (B * B); rw [abs_of_nonneg (mul_self_nonneg B)] at e2
  have hu1' : u ≤ 1 := hu1.trans (by norm_num)
  have ds := radicand_step1 hu0 (hu1.trans (by norm_num)) hτ e1 e2 (hr _)
  -- `p̂ ≈ 2abc`: a rounding, times `b`, a rounding, times `c`, a rounding
  have d0 := approx_mul B (hr (2 * A))
  rw [abs_of_nonneg hB] at d0
  have d1 := approx_step hu0 hu1' hu1' hτB d0 (hr _)
  have hτ2 : 0 ≤ 2 * (τ * B) + τ := by linarith
  have d2 := approx_step hu0 hu1' (by linarith : u + 2 * u ≤ 1) (mul_nonneg hτ2 (abs_nonneg c)) (approx_mul c d1) (hr _)
  have h2 : |2 * A * B * c| * (u + 2 * u + 2 * u) ≤ 2 * A * B * (u + 2 * u + 2 * u) :=
    mul_le_mul_of_nonneg_right (abs_mul_unit_le (by positivity) hc) (by positivity)
  have h3 : (2 * (τ * B) + τ) * |c| ≤ 2 * (τ * B) + τ := mul_le_of_le_one_right hτ2 hc
  -- the sum, with absolute error only (the two terms may cancel), and its rounding
  have dsum : |r (r (A * A) + r (B * B)) + r (r (r (2 * A) * B) * c) - (A * A + B * B + 2 * A * B * c)|
      ≤ |A * A + B * B + 2 * A * B * c| * 0 + (3 * (A * A + B * B) * u + 10 * (A * B) * u + 4 * (τ * B) + 8 * τ) := by
    rw [show ∀ x y X Y : ℝ, x + y - (X + Y) = (x - X) + (y - Y) from fun _ _ _ _ => by ring]
    linarith only [abs_add_le (r (r (A * A) + r (B * B)) - (A * A + B * B)) (r (r (r (2 * A) * B) * c) - 2 * A * B * c), ds, d2, h2, h3]
  have dR := approx_step hu0 hu1' zero_le_one (by linarith only [hSu, hPu, hτB, hτ]) dsum (hr _)
  obtain ⟨hE0, hE1⟩ := lawcos_bounds hA hB hc
  rw [abs_of_nonneg hE0] at dR
  have := mul_le_mul_of_nonneg_right hE1 (by linarith only [hu0] : 0 ≤ 0 + 2 * u)
  linarith only [dR, this, hSu]

/-- the rounded root `m` of a radicand `R ≈ E` clamped at zero: an absolute error `η` of the radicand costs `√η` at the root -/
theorem mag_from_radicand {E R m P e t τ : ℝ} (hP : 0 ≤ P) (hE0 : 0 ≤ E) (hEP : E ≤ P ^ 2) (he0 : 0 ≤ e) (hτ : 0 ≤ τ)
    (hR : |R - E| ≤ P ^ 2 / 2 ^ 48 + τ) (hm : |m - Real.sqrt (max R 0)| ≤ Real.sqrt (max R 0) * e + t) :
    |m - Real.sqrt E| ≤ (P / 2 ^ 24 + Real.sqrt τ) + (P + P / 2 ^ 24 + Real.sqrt τ) * e + t := by
  have hx0 : 0 ≤ max R 0 := le_max_right _ _
  have hxE : |max R 0 - E| ≤ |R - E| := by
    have := abs_max_sub_max_le_abs R E 0
    rwa [max_eq_left hE0] at this
  have h1 : |Real.sqrt (max R 0) - Real.sqrt E| ≤ P / 2 ^ 24 + Real.sqrt τ := by
    refine le_trans (sqrt_sub_sqrt_le hx0 hE0) ?_
    refine le_trans (Real.sqrt_le_sqrt (le_trans hxE hR)) ?_
    refine le_trans (sqrt_add_le' (by positivity) hτ) ?_
    have : P ^ 2 / 2 ^ 48 = (P / 2 ^ 24) ^ 2 := by rw [div_pow, ← pow_mul]
    rw [this, Real.sqrt_sq (by positivity)]
  have hsE : Real.sqrt E ≤ P := by
    rw [Real.sqrt_le_left hP]; exact hEP
  have hsx : Real.sqrt (max R 0) ≤ P + P / 2 ^ 24 + Real.sqrt τ := by
    have := abs_sub_abs_le_abs_sub (Real.sqrt (max R 0)) (Real.sqrt E)
    rw [abs_of_nonneg (Real.sqrt_nonneg _), abs_of_nonneg (Real.sqrt_nonneg _)] at this
    linarith
  have h2 : Real.sqrt (max R 0) * e ≤ (P + P / 2 ^ 24 + Real.sqrt τ) * e := mul_le_mul_of_nonneg_right hsx he0
  have := abs_sub_le m (Real.sqrt (max R 0)) (Real.sqrt E)
  linarith

theorem sqrt_lawcos_perturb {A B c C d k : ℝ} (hA : 0 ≤ A) (hB : 0 ≤ B) (hc : |c| ≤ 1) (hC : |C| ≤ 1) (hd : |c - C| ≤ d)
    (hk0 : 0 ≤ k) (hk : d / 2 ≤ k ^ 2) :
    |Real.sqrt (A * A + B * B + 2 * A * B * c) - Real.sqrt (A * A + B * B + 2 * A * B * C)| ≤ (A + B) * k := by
  refine le_trans (sqrt_sub_sqrt_le (lawcos_bounds hA hB hc).1 (lawcos_bounds hA hB hC).1) (Real.sqrt_le_iff.mpr ⟨by positivity, ?_⟩)
  have e : A * A + B * B + 2 * A * B * c - (A * A + B * B + 2 * A * B * C) = 2 * A * B * (c - C) := by ring
  have h2 : 2 * A * B ≤ (A + B) ^ 2 / 2 := by linarith [sq_nonneg (A - B)]
  rw [e, abs_mul, abs_of_nonneg (by positivity : (0:ℝ) ≤ 2 * A * B)]
  calc 2 * A * B * |c - C| ≤ (A + B) ^ 2 / 2 * d := mul_le_mul h2 hd (abs_nonneg _) (by positivity)
    _ = (A + B) ^ 2 * (d / 2) := by ring
    _ ≤ (A + B) ^ 2 * k ^ 2 := mul_le_mul_of_nonneg_left hk (by positivity)
    _ = ((A + B) * k) ^ 2 := by ring

variable {F : Type} [FloatSpec F]

/-- the nest of roundings the source writes for `√(max(a² + b² + ((2a)b)·c, 0))` against the exact root.  The radicand has absolute error
    `≈ 12ε(a+b)²` (`radicand_real`); near zero the root of an absolute error `η` is `√η`, hence the `2⁻²⁴·(a+b)`. -/
theorem lawcos_rnd {A B c : ℝ} (hA0 : 0 ≤ A) (hB0 : 0 ≤ B) (hB1 : B ≤ 10 ^ 100) (hc : |c| ≤ 1) :
    |rnd (F := F) (Real.sqrt (max (rnd (F := F) (rnd (F := F) (rnd (F := F) (A * A) + rnd (F := F) (B * B))
          + rnd (F := F) (rnd (F := F) (rnd (F := F) (2 * A) * B) * c))) 0))
        - Real.sqrt (A * A + B * B + 2 * A * B * c)|
      ≤ (A + B) * (1 / 2 ^ 24 + 1 / 2 ^ 50) + 1 / 10 ^ 90 := by
  have hR := radicand_real (rnd_rel (F := F)) (by positivity) (by norm_num) (by positivity) hA0 hB0 hc
  have hm := rnd_rel (F := F) (Real.sqrt (max (rnd (F := F) (rnd (F := F) (rnd (F := F) (A * A) + rnd (F := F) (B * B))
    + rnd (F := F) (rnd (F := F) (rnd (F := F) (2 * A) * B) * c))) 0))
  rw [abs_of_nonneg (Real.sqrt_nonneg _)] at hm
  have hP : 0 ≤ A + B := add_nonneg hA0 hB0
  obtain ⟨hE0, hEP⟩ := lawcos_bounds hA0 hB0 hc
  -- the absolute part of the radicand's error is below `1e-190`, its root below `1e-95`
  have ht300 := tiny_1075_300
  have ht0 : (0:ℝ) ≤ 1 / 2 ^ 1075 := by positivity
  generalize (1:ℝ) / 2 ^ 1075 = t at *
  have htB : t * B ≤ 1 / 10 ^ 200 := by
    calc t * B ≤ 1 / 10 ^ 300 * 10 ^ 100 := mul_le_mul ht300 hB1 hB0 (by positivity)
      _ = 1 / 10 ^ 200 := by rw [show (300:ℕ) = 200 + 100 by norm_num, pow_add]; field_simp
  have ht200 : t ≤ 1 / 10 ^ 200 :=
    ht300.trans (one_div_le_one_div_of_le (by positivity) (pow_le_pow_right₀ (by norm_num) (by norm_num)))
  have hτ0 : 0 ≤ 8 * (t * B) + 17 * t := by have := mul_nonneg ht0 hB0; linarith
  have hsτ : Real.sqrt (8 * (t * B) + 17 * t) ≤ 1 / 10 ^ 95 :=
    Real.sqrt_le_iff.mpr ⟨by positivity, le_trans (by linarith) (by norm_num : (25:ℝ) * (1 / 10 ^ 200) ≤ (1 / 10 ^ 95) ^ 2)⟩
  have hsτ0 := Real.sqrt_nonneg (8 * (t * B) + 17 * t)
  have ht95 : t ≤ 1 / 10 ^ 95 := ht200.trans (by norm_num)
  refine le_trans (mag_from_radicand hP hE0 hEP (by positivity) hτ0
    (hR.trans (add_le_add_left (by rw [div_eq_mul_one_div]; exact mul_le_mul_of_nonneg_left (by norm_num) (by positivity)) _)) hm) ?_
  generalize Real.sqrt (8 * (t * B) + 17 * t) = w at *
  linarith only [hP, hsτ, hsτ0, ht95]

namespace Geonum

/-- (B, C06) the magnitude of a general-branch sum -/
theorem sum_mag_float {a b : Geonum F} (ha : a.MagDom) (hb : b.MagDom)
    (hg : Fin (fsub b.angle.gradeAngle a.angle.gradeAngle))
    (h1 : sameAngle a b = false) (h2 : oppositeAngle a b = false) :
    |val (a.add b).mag - Real.sqrt (val a.mag * val a.mag + val b.mag * val b.mag
        + 2 * val a.mag * val b.mag * val (FloatLike.cos (fsub b.angle.gradeAngle a.angle.gradeAngle)))|
      ≤ (val a.mag + val b.mag) * (1 / 2 ^ 24 + 1 / 2 ^ 50) + 1 / 10 ^ 90 := by
  obtain ⟨hfr, hR⟩ := radicand_val ha hb hg
  rw [add_general_mag a b h1 h2, (sqrt_clamp hfr).2, hR]
  exact lawcos_rnd ha.2.1 hb.2.1 hb.2.2 (cos_spec hg).2.1

/-- (B, C13) `distance_to` -/
theorem distance_float {a b : Geonum F} (ha : a.MagDom) (hb : b.MagDom) (hx : Fin (b.angle.sub a.angle).gradeAngle) :
    |val (a.distanceTo b).mag - Real.sqrt (val a.mag * val a.mag + val b.mag * val b.mag
        - 2 * val a.mag * val b.mag * val (FloatLike.cos (b.angle.sub a.angle).gradeAngle))|
      ≤ (val a.mag + val b.mag) * (1 / 2 ^ 24 + 1 / 2 ^ 50) + 1 / 10 ^ 90 := by
  obtain ⟨hs, hp, hvs, hvp, hs1, hp1⟩ := radicand_parts ha hb hx
  obtain ⟨hfd, hvd, _⟩ := fsub_bd hs hp hs1 hp1 (by norm_num)
  have hmag : val (a.distanceTo b).mag = _ := (scalar_sqrt_clamp hfd).2.1
  -- the subtraction is the addition of the negated product: the law of cosines with `−c`
  have hneg : ∀ s p c : ℝ, s - rnd (F := F) (p * c) = s + rnd (F := F) (p * -c) := fun s p c => by
    rw [mul_neg, rnd_neg, sub_eq_add_neg]
  have hE : ∀ s p c : ℝ, s - p * c = s + p * -c := fun s p c => by ring
  rw [hmag, hvd, hvs, hvp, hneg, hE]
  exact lawcos_rnd ha.2.1 hb.2.1 hb.2.2 (by rw [abs_neg]; exact (cos_spec hx).2.1)

end Geonum
end GeonumModel
