/-
  GeonumModel.Lemmas.ExactAdd — interpretation E: `impl Add for Geonum` refines addition of Cartesian points.
-/
import GeonumModel.Lemmas.Exact
import GeonumModel.Lemmas.GeonumAdd
import GeonumModel.Lemmas.Polar

namespace GeonumModel.Exact
open GeonumModel FloatLike FloatSpec Angle Geonum

/-- the Cartesian point of a geometric number -/
noncomputable def cart (g : Geonum ℝ) : ℂ := polar g.mag (T g.angle)

theorem norm_cart {g : Geonum ℝ} (h : 0 ≤ g.mag) : ‖cart g‖ = g.mag := by
  rw [cart, norm_polar, abs_of_nonneg h]

theorem cart_grade (g : Geonum ℝ) : cart g = polar g.mag g.angle.gradeAngle := by
  simp only [cart, polar]; rw [cos_gradeAngle, sin_gradeAngle]

theorem cart_negate {b : Geonum ℝ} (hb : b.angle.Inv) : cart b.negate = -cart b := by
  show polar b.mag (T b.angle.negate) = -polar b.mag (T b.angle)
  rw [negate_total_real hb, polar_add_pi]

/-- two points a half turn apart up to `ε` (`A` along `u`, `B` against `u + ε`): a point `r` along `u` is their sum to within
    `|r − (A − B)|` and the `ε`-displacement of `B` -/
theorem norm_ray_sub {A B r u ε η : ℝ} (hA : 0 ≤ A) (hB : 0 ≤ B) (hε : |ε| ≤ η) (hr : |r - (A - B)| ≤ η) :
    ‖polar r u - (polar A u + -polar B (u + ε))‖ ≤ η * (1 + A + B) := by
  have e : polar r u - (polar A u + -polar B (u + ε)) = polar (r - (A - B)) u + (polar B (u + ε) - polar B u) := by
    rw [polar_sub, polar_sub]; ring
  have h1 := norm_polar_near (s := u + ε) (t := u) (η := η) hB (by rwa [add_sub_cancel_left])
  have h2 := norm_add_le (polar (r - (A - B)) u) (polar B (u + ε) - polar B u)
  rw [norm_polar] at h2
  rw [e]
  linarith [mul_nonneg ((abs_nonneg ε).trans hε) hA]

/-- … and the point `A − B` along `u + ε` is their sum to within the `ε`-displacement of `A` -/
theorem norm_ray_sub' {A B u ε η : ℝ} (hA : 0 ≤ A) (hB : 0 ≤ B) (hε : |ε| ≤ η) :
    ‖polar (A - B) (u + ε) - (polar A u + -polar B (u + ε))‖ ≤ η * (1 + A + B) := by
  have e : polar (A - B) (u + ε) - (polar A u + -polar B (u + ε)) = polar A (u + ε) - polar A u := by
    rw [polar_sub]; ring
  have h1 := norm_polar_near (s := u + ε) (t := u) (η := η) hA (by rwa [add_sub_cancel_left])
  have hη := (abs_nonneg ε).trans hε
  rw [e]
  linarith [mul_nonneg hη hB]

theorem T_of_beq {a b : Angle ℝ} (ha : a.Inv) (hb : b.Inv) (h : a.beq b = true) : |T a - T b| < 1 / 10 ^ 15 := by
  obtain ⟨hbl, hr⟩ := beq_rems ha hb h
  unfold T
  rwa [hbl, add_sub_add_left_eq_sub, ← e15_real]

/-- the operands of the opposite branch point a half turn apart, up to the equality tolerance: whatever lies along `b` lies against
    `a`, turned by some `ε` below `1e-15` -/
theorem polar_opposite {a b : Geonum ℝ} (ha : a.angle.Inv) (hb : b.angle.Inv) (h2 : oppositeAngle a b = true) :
    ∃ ε : ℝ, |ε| < 1 / 10 ^ 15 ∧ ∀ r : ℝ, polar r (T b.angle) = -polar r (T a.angle + ε) := by
  unfold oppositeAngle at h2
  rw [Bool.or_eq_true] at h2
  rcases h2 with h | h
  · have hT := T_of_beq (negate_inv ha) hb h
    rw [negate_total_real ha, abs_sub_comm] at hT
    refine ⟨_, hT, fun r => ?_⟩
    rw [← polar_add_pi]; congr 1; ring
  · have hT := T_of_beq (negate_inv hb) ha h
    rw [negate_total_real hb] at hT
    refine ⟨_, hT, fun r => ?_⟩
    rw [add_sub_cancel, polar_add_pi, neg_neg]

theorem add_general_real {a b : Geonum ℝ} (h1 : sameAngle a b = false) (h2 : oppositeAngle a b = false)
    (hcb : a.angle.blade + b.angle.blade ≤ 2 ^ 40) :
    ∃ x : ℝ, x = Complex.arg ⟨adjSum a b, oppSum a b⟩ - ((a.angle.blade + b.angle.blade : ℕ) : ℝ) * Real.pi / 2 ∧
      |x| ≤ 2 ^ 42 ∧ x ≤ Real.pi ∧
      a.add b = ⟨sqrt (fmax (radicand a b) (zero : ℝ)),
        (Angle.new x Real.pi).geometricAdd ⟨zero, a.angle.blade + b.angle.blade⟩⟩ := by
  have hpi := Real.pi_pos; have h4 := Real.pi_lt_four
  have harg := Complex.abs_arg_le_pi ⟨adjSum a b, oppSum a b⟩
  have hcbr : ((a.angle.blade + b.angle.blade : ℕ) : ℝ) ≤ 2 ^ 40 := by exact_mod_cast hcb
  have hc0 : (0:ℝ) ≤ ((a.angle.blade + b.angle.blade : ℕ) : ℝ) := Nat.cast_nonneg _
  refine ⟨_, rfl, ?_, ?_, ?_⟩
  · rw [abs_le] at harg ⊢
    have h1 : ((a.angle.blade + b.angle.blade : ℕ) : ℝ) * Real.pi ≤ 2 ^ 40 * 4 := mul_le_mul hcbr h4.le hpi.le (by norm_num)
    have h2 : (4:ℝ) + 2 ^ 40 * 2 ≤ 2 ^ 42 := by norm_num
    constructor <;> linarith only [harg.1, harg.2, mul_nonneg hc0 hpi.le, h1, h2, h4]
  · linarith only [(abs_le.mp harg).2, mul_nonneg hc0 hpi.le]
  · rw [add_general a b h1 h2]
    show (⟨_, Angle.newWithBlade _ _ _⟩ : Geonum ℝ) = _
    unfold Angle.newWithBlade
    simp only [Angle.add, addVV]
    rw [new_nat _ (lt_of_le_of_lt hcb (by norm_num))]
    rfl

/-- the general branch returns the sum of the Cartesian points turned by the snap `δ` of `Angle::new`: the radicand is its squared
    norm (law of cosines), `atan2` its argument, and the blade sum taken out before `Angle::new` is put back by `geometric_add` -/
theorem cart_add_general {a b : Geonum ℝ} (h1 : sameAngle a b = false) (h2 : oppositeAngle a b = false)
    (hcb : a.angle.blade + b.angle.blade ≤ 2 ^ 40) :
    ∃ δ : ℝ, |δ| < 1 / 10 ^ 10 ∧ cart (a.add b) = polar ‖cart a + cart b‖ (Complex.arg (cart a + cart b) + δ) := by
  obtain ⟨x, hx, hx42, _, hadd⟩ := add_general_real h1 h2 hcb
  obtain ⟨hninv, δ, m, hδ, hTn⟩ := new_radians_real hx42
  set z : ℂ := cart a + cart b with hz
  have hzc : (⟨adjSum a b, oppSum a b⟩ : ℂ) = z := by rw [hz, cart_grade, cart_grade]; rfl
  have hmag : sqrt (fmax (radicand a b) (zero : ℝ)) = ‖z‖ := by
    have hrad : radicand a b = Complex.normSq z := by
      rw [hz, cart_grade, cart_grade, normSq_polar_add]
      simp only [radicand, r_add, r_mul, r_sub, two_real]
      rfl
    rw [hrad, r_max, zero_real, max_eq_left (Complex.normSq_nonneg z)]
    show Real.sqrt (Complex.normSq z) = ‖z‖
    rw [← Complex.sq_norm, Real.sqrt_sq (norm_nonneg z)]
  refine ⟨δ, hδ, ?_⟩
  rw [hadd]
  show polar (sqrt (fmax (radicand a b) (zero : ℝ))) (T ((Angle.new x Real.pi).geometricAdd ⟨zero, _⟩)) = _
  rw [hmag, add_whole_total_real hninv zero_real, hTn]
  refine (congrArg (polar ‖z‖) ?_).trans (polar_add_turns _ _ m)
  show _ + (((a.angle.blade + b.angle.blade : ℕ) : ℝ) * (Real.pi / 2) + (zero : ℝ)) = _
  rw [zero_real, hx, hzc]; ring

/-- `+` refines addition of Cartesian points, whatever branch the code takes -/
theorem add_refines {a b : Geonum ℝ} (ha : a.angle.Inv) (hb : b.angle.Inv) (h0a : 0 ≤ a.mag) (h0b : 0 ≤ b.mag)
    (hcb : a.angle.blade + b.angle.blade ≤ 2 ^ 40) :
    ‖cart (a.add b) - (cart a + cart b)‖ ≤ 1 / 10 ^ 10 * (1 + a.mag + b.mag) := by
  have htol : (1:ℝ) / 10 ^ 15 ≤ 1 / 10 ^ 10 := one_div_le_one_div_of_le (by positivity) (by norm_num)
  refine add_cases a b (fun h1 => ?_) (fun _ h2 h3 => ?_) (fun _ h2 _ _ => ?_) (fun _ h2 _ _ => ?_) (fun h1 h2 => ?_)
  · -- identical angles (within the equality tolerance)
    show ‖polar (a.mag + b.mag) (T a.angle) - (polar a.mag (T a.angle) + polar b.mag (T b.angle))‖ ≤ _
    rw [← polar_add_same, add_sub_add_left_eq_sub]
    have := norm_polar_near h0b ((T_of_beq ha hb h1).le.trans htol)
    linarith
  · -- a half turn apart, magnitudes within `1e-10`: the result is `0`
    obtain ⟨ε, hε, hop⟩ := polar_opposite ha hb h2
    have hd : |a.mag - b.mag| < 1 / 10 ^ 10 := by rw [r_lt, r_abs, r_sub, e10_real] at h3; simpa using h3
    show ‖polar (zero : ℝ) _ - (polar a.mag (T a.angle) + polar b.mag (T b.angle))‖ ≤ _
    rw [hop, zero_real, polar_zero, ← polar_zero (T a.angle)]
    exact norm_ray_sub h0a h0b (hε.le.trans htol) (by rw [zero_sub, abs_neg]; exact hd.le)
  · -- … the difference on `a`'s ray
    obtain ⟨ε, hε, hop⟩ := polar_opposite ha hb h2
    show ‖polar (a.mag - b.mag) (T a.angle) - (polar a.mag (T a.angle) + polar b.mag (T b.angle))‖ ≤ _
    rw [hop]
    exact norm_ray_sub h0a h0b (hε.le.trans htol) (by rw [sub_self, abs_zero]; positivity)
  · -- … the negated difference on `b`'s ray
    obtain ⟨ε, hε, hop⟩ := polar_opposite ha hb h2
    show ‖polar (-(a.mag - b.mag)) (T b.angle) - (polar a.mag (T a.angle) + polar b.mag (T b.angle))‖ ≤ _
    rw [hop, hop, polar_neg, neg_neg]
    exact norm_ray_sub' h0a h0b (hε.le.trans htol)
  · -- general branch
    change ‖cart (Geonum.newWithBlade _ _ _ _) - _‖ ≤ _
    rw [← add_general a b h1 h2]
    obtain ⟨δ, hδ, hres⟩ := cart_add_general h1 h2 hcb
    have hzn : ‖cart a + cart b‖ ≤ a.mag + b.mag := (norm_add_le _ _).trans_eq (by rw [norm_cart h0a, norm_cart h0b])
    have := norm_polar_near (s := Complex.arg (cart a + cart b) + δ) (t := Complex.arg (cart a + cart b)) (η := 1 / 10 ^ 10)
      (norm_nonneg (cart a + cart b)) (by rw [add_sub_cancel_left]; exact hδ.le)
    rw [polar_norm_arg] at this
    rw [hres]
    linarith

theorem sub_refines {a b : Geonum ℝ} (ha : a.angle.Inv) (hb : b.angle.Inv) (h0a : 0 ≤ a.mag) (h0b : 0 ≤ b.mag)
    (hcb : a.angle.blade + (b.angle.blade + 2) ≤ 2 ^ 40) :
    ‖cart (a.sub b) - (cart a - cart b)‖ ≤ 1 / 10 ^ 10 * (1 + a.mag + b.mag) := by
  have h := add_refines ha (negate_inv hb : b.negate.angle.Inv) h0a (show 0 ≤ b.negate.mag from h0b) (by
    show a.angle.blade + b.angle.negate.blade ≤ 2 ^ 40
    rw [(negate_spec hb).1]; exact hcb)
  rwa [cart_negate hb, ← sub_eq_add_neg] at h

theorem general_blade_real {a b : Geonum ℝ} (h1 : sameAngle a b = false) (h2 : oppositeAngle a b = false)
    (hcb : a.angle.blade + b.angle.blade ≤ 2 ^ 40) :
    a.angle.blade + b.angle.blade ≤ (a.add b).angle.blade ∧ (a.add b).angle.blade ≤ a.angle.blade + b.angle.blade + 4 ∧
    ((a.add b).angle.blade = a.angle.blade + b.angle.blade + 4 → (a.add b).angle.rem = 0) := by
  obtain ⟨x, _, hx42, hxpi, hadd⟩ := add_general_real h1 h2 hcb
  obtain ⟨hle4, h4⟩ := new_radians_blade_real hxpi
  have hw := add_whole (F := ℝ) (a := Angle.new x Real.pi) (z := (⟨zero, a.angle.blade + b.angle.blade⟩ : Angle ℝ))
    (new_radians_real hx42).1 trivial (val_zero (F := ℝ))
  simp only [val_id] at hw
  rw [hadd]
  show _ ≤ ((Angle.new x Real.pi).geometricAdd _).blade ∧ ((Angle.new x Real.pi).geometricAdd _).blade ≤ _ ∧
    (((Angle.new x Real.pi).geometricAdd _).blade = _ → ((Angle.new x Real.pi).geometricAdd _).rem = 0)
  rw [hw.1]
  refine ⟨by omega, by omega, fun h => ?_⟩
  rw [hw.2.2]
  exact h4 (by omega)

end GeonumModel.Exact
