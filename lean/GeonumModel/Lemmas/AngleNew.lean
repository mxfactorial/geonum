/-
  GeonumModel.Lemmas.AngleNew — `Angle::new` (fast path, general path, constant table) in rounded arithmetic (S-tier).
-/
import GeonumModel.Lemmas.AngleInv

namespace GeonumModel
open FloatLike FloatSpec

variable {F : Type} [FloatSpec F]

namespace Angle

/-! ### the exact quarter-turn fast path -/

theorem feq_two_two : feq (two : F) two = true := (feq_spec fin_two fin_two).mpr rfl

theorem new_two_whole {p d : F} {i : ℤ} (hd : feq d two = true) (hp : Fin p) (hv : val p = i) :
    Angle.new p d = newFast p := by
  obtain ⟨hff, hfz⟩ := fract_spec hp
  have hfr : feq (FloatLike.fract p) zero = true := by
    rw [feq_spec hff fin_zero, val_zero, hfz]; exact ⟨i, hv⟩
  unfold Angle.new
  simp [hd, hfr]

theorem fast_args {p d : F} (hp : Fin p) (hd : Fin d) (h : (feq d two && feq (FloatLike.fract p) zero) = true) :
    feq d two = true ∧ val d = 2 ∧ ∃ i : ℤ, val p = i := by
  rw [Bool.and_eq_true] at h
  obtain ⟨hff, hfz⟩ := fract_spec hp
  exact ⟨h.1, ((feq_spec hd fin_two).mp h.1).trans val_two, hfz.mp (((feq_spec hff fin_zero).mp h.2).trans val_zero)⟩

theorem new_two_of_nat {p d : F} {k : ℕ} (hd : feq d two = true) (hp : Fin p) (hv : val p = k) (hk : k < 2 ^ 64) :
    Angle.new p d = ⟨zero, k⟩ := by
  have hnl : flt p zero = false := by
    rw [Bool.eq_false_iff, ne_eq, flt_spec hp fin_zero, hv, val_zero]; exact not_lt.mpr (Nat.cast_nonneg k)
  have hus : toUsize p = k := by
    rw [toUsize_spec hp (by rw [hv]; exact Nat.cast_nonneg k) (by rw [hv]; exact_mod_cast hk), hv]
    exact Nat.floor_natCast k
  rw [new_two_whole (i := k) hd hp (by rw [hv]; rfl)]
  simp [newFast, hnl, hus]

theorem new_nat (k : ℕ) (hk : k < 2 ^ 53) : Angle.new (FloatLike.ofNat k : F) two = ⟨zero, k⟩ :=
  new_two_of_nat feq_two_two (fin_nat hk) (val_nat hk) (lt_trans hk (by norm_num))

theorem new_zero_two : Angle.new (zero : F) two = ⟨zero, 0⟩ := new_nat 0 (by norm_num)
theorem new_one_two : Angle.new (one : F) two = ⟨zero, 1⟩ := new_nat 1 (by norm_num)
theorem new_two_two : Angle.new (two : F) two = ⟨zero, 2⟩ := new_nat 2 (by norm_num)
theorem new_three_two : Angle.new (three : F) two = ⟨zero, 3⟩ := new_nat 3 (by norm_num)

theorem new_nonnegInt_two (i : ℤ) (h0 : 0 ≤ i) (hbig : |i| < 2 ^ 50) :
    Angle.new (FloatLike.ofInt i : F) two = ⟨zero, i.toNat⟩ := by
  obtain ⟨hfi, hvi⟩ := ofInt_spec (F := F) (i := i) (lt_trans hbig (by norm_num))
  rw [abs_of_nonneg h0] at hbig
  exact new_two_of_nat feq_two_two hfi (by rw [hvi]; exact_mod_cast (Int.toNat_of_nonneg h0).symm) (by omega)

theorem ceil_int_div_four (z : ℤ) : ⌈(z:ℝ) / 4⌉ = (z + 3) / 4 := by
  have h : (z:ℝ) / 4 = -(((-z : ℤ) : ℝ) / ((4:ℕ):ℝ)) := by push_cast; ring
  rw [h, Int.ceil_neg, Int.floor_div_natCast, Int.floor_intCast]
  omega

theorem rep_int_div_four {z : ℤ} (h : |z| < 2 ^ 53) : Rep (F := F) ((z : ℝ) / 4) := by
  rcases eq_or_ne z 0 with rfl | hz
  · simpa using rep_zero (F := F)
  have h1 : (1:ℝ) ≤ |(z:ℝ)| := by exact_mod_cast Int.one_le_abs hz
  have h2 : |(z:ℝ)| < 2 ^ 53 := by exact_mod_cast h
  refine rep_scale_mid (-2) (rep_int h) (by rw [zpow_neg, zpow_two, div_eq_mul_inv]; norm_num) ?_ ?_ <;>
    rw [abs_div, abs_of_pos (by norm_num : (0:ℝ) < 4)]
  · exact div_le_div_of_nonneg_right h1 (by norm_num)
  · exact (div_le_self (abs_nonneg _) (by norm_num)).trans (h2.le.trans (by norm_num))

/-- for a whole `p = i < 0` the fast path computes `i + 4·⌈(−i+3)/4⌉` (angle.rs:45-58), and `⌈z/4⌉ = (z+3)/4` -/
theorem new_two_of_negInt {p : F} {i : ℤ} (hp : Fin p) (hv : val p = i) (hneg : i < 0) (hbig : |i| < 2 ^ 50) :
    Angle.new p two = ⟨zero, (i + (-i + 3 + 3) / 4 * 4).toNat⟩ := by
  rw [abs_of_neg hneg] at hbig
  have hl : flt p zero = true := by
    rw [flt_spec hp fin_zero, hv, val_zero]; exact_mod_cast hneg
  have h3 : val (three : F) = ((3 : ℤ) : ℝ) := val_three.trans (Int.cast_ofNat 3).symm
  have h4 : val (four : F) = ((4 : ℤ) : ℝ) := val_four.trans (Int.cast_ofNat 4).symm
  -- every step of `p + ⌈(−p + 3) / 4⌉ · 4` is exact
  obtain ⟨hfn, hvn⟩ := fneg_spec hp
  rw [hv, ← Int.cast_neg] at hvn
  obtain ⟨hfa, hva⟩ := fadd_int hfn fin_three hvn h3 (abs_lt.mpr (by omega))
  have h53 : |(-i + 3 : ℤ)| < 2 ^ 53 := abs_lt.mpr (by omega)
  have hr : InRange (F := F) (((-i + 3 : ℤ) : ℝ) / 4) := by
    refine inRange_mono ?_ (inRange_int h53)
    rw [abs_div, abs_of_pos (show (0:ℝ) < 4 by norm_num)]
    exact div_le_self (abs_nonneg _) (by norm_num)
  obtain ⟨hfd, hvd⟩ := fdiv_rep hfa (fin_four (F := F)) (by rw [val_four]; norm_num) (by rw [hva, val_four])
    (rep_int_div_four h53) hr
  obtain ⟨hfc, hvc⟩ := ceil_spec hfd
  rw [hvd, ceil_int_div_four] at hvc
  obtain ⟨hfm, hvm⟩ := fmul_int hfc fin_four hvc h4 (abs_lt.mpr (by omega))
  obtain ⟨hfs, hvs⟩ := fadd_int hp hfm hv hvm (abs_lt.mpr (by omega))
  have h0 : (0:ℤ) ≤ i + (-i + 3 + 3) / 4 * 4 := by omega
  rw [new_two_whole feq_two_two hp hv]
  simp only [newFast, hl, ↓reduceIte]
  rw [toUsize_spec hfs (by rw [hvs]; exact_mod_cast h0) (by
    rw [hvs]; exact_mod_cast (by omega : i + (-i + 3 + 3) / 4 * 4 < 2 ^ 64)), hvs, ← Int.floor_toNat, Int.floor_intCast]

/-- the constant of `decrement_blade` -/
theorem new_negone_two : Angle.new (fneg one : F) two = ⟨zero, 3⟩ := by
  obtain ⟨hfn, hvn⟩ := fneg_spec (fin_one (F := F))
  exact new_two_of_negInt (i := -1) hfn (by rw [hvn, val_one]; norm_num) (by norm_num) (by norm_num)

/-- (C02) a negative count of quarter turns is answered forward: a blade in `3..6`, congruent modulo 4 -/
theorem new_negInt_two (i : ℤ) (hneg : i < 0) (hbig : |i| < 2 ^ 50) :
    ∃ k : ℕ, Angle.new (FloatLike.ofInt i : F) two = ⟨zero, k⟩ ∧ (k : ℤ) = i + 4 * ((-i + 3 + 3) / 4) ∧
      3 ≤ k ∧ k ≤ 6 ∧ (k : ℤ) % 4 = i % 4 := by
  obtain ⟨hfi, hvi⟩ := ofInt_spec (F := F) (i := i) (lt_trans hbig (by norm_num))
  refine ⟨_, new_two_of_negInt hfi hvi hneg hbig, ?_⟩
  omega

theorem new_int_two (i : ℤ) (hbig : |i| < 2 ^ 50) :
    ∃ k : ℕ, Angle.new (FloatLike.ofInt i : F) two = ⟨zero, k⟩ ∧ (k : ℤ) % 4 = i % 4 ∧ (0 ≤ i → (k : ℤ) = i) := by
  by_cases h0 : 0 ≤ i
  · have e := Int.toNat_of_nonneg h0
    exact ⟨i.toNat, new_nonnegInt_two i h0 hbig, by rw [e], fun _ => e⟩
  · obtain ⟨k, hn, _, _, _, hkm⟩ := new_negInt_two (F := F) i (not_le.mp h0) hbig
    exact ⟨k, hn, hkm, fun h => absurd h h0⟩

/-! ### the general path, from a finite non-negative normalised total -/

theorem round_of_close {z : ℝ} {k : ℕ} (h : |z - k| < 1 / 2) : round z = (k : ℤ) := by
  rw [round_eq_iff, Int.cast_natCast]
  obtain ⟨h1, h2⟩ := abs_lt.mp h
  exact ⟨((sub_eq_add_neg _ _).trans_lt (lt_sub_iff_add_lt'.mp h1)).le, sub_lt_iff_lt_add'.mp h2⟩

theorem div_close_real {q y k : ℝ} (hq : 1 ≤ q) (hy : |y - k * q| ≤ k * q / 2 ^ 53 + 1 / 10 ^ 30) :
    |y / q - k| ≤ k / 2 ^ 53 + 1 / 10 ^ 30 := by
  have hq0 : 0 < q := one_pos.trans_le hq
  rw [show y / q - k = (y - k * q) / q by field_simp, abs_div, abs_of_pos hq0, div_le_iff₀ hq0, add_mul,
    div_mul_eq_mul_div]
  exact hy.trans (add_le_add le_rfl (le_mul_of_one_le_right (by positivity) hq))

theorem round_quot_real {x z k : ℝ} (hk : k ≤ 2 ^ 48) (hx : |x - k| ≤ k / 2 ^ 53 + 1 / 10 ^ 30)
    (hz : |z - x| ≤ (2 ^ 48 + 1) / 2 ^ 53 + 1 / 10 ^ 30) : |z - k| < 1 / 2 := by
  have h1 := abs_sub_le z x k
  have h2 : k / 2 ^ 53 ≤ 2 ^ 48 / 2 ^ 53 := div_le_div_of_nonneg_right hk (by positivity)
  have h3 : (2:ℝ) ^ 48 / 2 ^ 53 + 1 / 10 ^ 30 + ((2 ^ 48 + 1) / 2 ^ 53 + 1 / 10 ^ 30) < 1 / 2 := by norm_num
  linarith

/-- the blade count of the general path, `round((nt − nt % qp) / qp) as usize`: the two roundings move the quotient by less than `1/2` -/
theorem newBlade_eq {nt : F} (hf : Fin nt) (h0 : 0 ≤ val nt) (hbig : val nt ≤ 2 ^ 48) :
    toUsize (FloatLike.round (fdiv (fsub nt (fmod nt (qp : F))) (qp : F))) = ⌊val nt / val (qp : F)⌋₊ := by
  have hq1 : (1:ℝ) ≤ val (qp : F) := le_trans (by norm_num) val_qp_gt.le
  have hqpos : (0:ℝ) < val (qp : F) := lt_of_lt_of_le one_pos hq1
  obtain ⟨hfr, hvr, hr0, _⟩ := fmod_qp_spec hf h0
  generalize ⌊val nt / val (qp : F)⌋₊ = k at *
  have hk0 : (0:ℝ) ≤ k := Nat.cast_nonneg k
  have hkq0 : 0 ≤ (k : ℝ) * val (qp : F) := mul_nonneg hk0 hqpos.le
  have hdiff : val nt - val (fmod nt (qp : F)) = (k : ℝ) * val (qp : F) := by rw [hvr, sub_sub_cancel]
  have hkq : (k : ℝ) * val (qp : F) ≤ 2 ^ 48 := hdiff ▸ (sub_le_self _ hr0).trans hbig
  have hkbig : (k : ℝ) ≤ 2 ^ 48 := (le_mul_of_one_le_right hk0 hq1).trans hkq
  -- y = rnd (k·qp)
  obtain ⟨hfs, hvs⟩ := fsub_spec hf hfr (by
    rw [hdiff]; exact inRange_of_abs_le_2p60 (by rw [abs_of_nonneg hkq0]; exact hkq.trans (by norm_num)))
  rw [hdiff] at hvs
  generalize fsub nt (fmod nt (qp : F)) = y at hfs hvs ⊢
  have hyq := div_close_real hq1 (hvs ▸ rnd_close_bound (F := F) hkq0 le_rfl)
  -- z = rnd (y / qp)
  have hyq0 : 0 ≤ val y / val (qp : F) := div_nonneg (hvs ▸ rnd_nonneg hkq0) hqpos.le
  have hyqub : val y / val (qp : F) ≤ 2 ^ 48 + 1 := by
    have : (k:ℝ) / 2 ^ 53 + 1 / 10 ^ 30 ≤ 1 :=
      (add_le_add (div_le_div_of_nonneg_right hkbig (by positivity)) le_rfl).trans (by norm_num)
    linarith only [(abs_le.mp hyq).2, this, hkbig]
  obtain ⟨hfd, hvd⟩ := fdiv_spec hfs fin_qp hqpos.ne'
    (inRange_of_abs_le_2p60 (by rw [abs_of_nonneg hyq0]; exact hyqub.trans (by norm_num)))
  generalize fdiv y (qp : F) = z at hfd hvd ⊢
  have hzk := round_quot_real hkbig hyq (hvd ▸ rnd_close_bound (F := F) hyq0 hyqub)
  obtain ⟨hfro, hvro⟩ := round_spec hfd (hvd ▸ rnd_nonneg hyq0)
  rw [round_of_close hzk, Int.cast_natCast] at hvro
  rw [toUsize_spec hfro (hvro ▸ hk0) (hvro ▸ hkbig.trans_lt (by norm_num)), hvro, Nat.floor_natCast]

/-- the body of the general path after `normalized_total` has been computed: blade and remainder decompose `nt` exactly, unless the
    remainder is snapped to the next blade -/
theorem newCore_spec (nt : F) (hf : Fin nt) (h0 : 0 ≤ val nt) (hbig : val nt ≤ 2 ^ 48) :
    let rem := fmod nt (qp : F)
    let blade := toUsize (FloatLike.round (fdiv (fsub nt rem) (qp : F)))
    let res := normalizeBoundaries ⟨rem, blade⟩
    res.Inv ∧
    ( (res.blade = ⌊val nt / val (qp : F)⌋₊ ∧ (res.blade : ℝ) * val (qp : F) + val res.rem = val nt) ∨
      (res.blade = ⌊val nt / val (qp : F)⌋₊ + 1 ∧ val res.rem = 0 ∧
        |(res.blade : ℝ) * val (qp : F) - val nt| < val (e10 : F)) ) := by
  intro rem blade res
  obtain ⟨hfr, hvr, hr0, hrq⟩ := fmod_qp_spec hf h0
  have hres : res = normalizeBoundaries ⟨fmod nt (qp : F), ⌊val nt / val (qp : F)⌋₊⟩ := by
    show normalizeBoundaries ⟨rem, blade⟩ = _
    rw [show blade = _ from newBlade_eq hf h0 hbig]
  rw [hres]
  generalize ⌊val nt / val (qp : F)⌋₊ = k at *
  obtain ⟨hinv, h | h | h⟩ := normalizeBoundaries_spec (fmod nt (qp : F)) k hfr hr0
    (by linarith only [hrq, val_e10_small (F := F), val_qp_gt (F := F), show (1:ℝ) / 10 ^ 9 ≤ 1 by norm_num])
  · refine ⟨hinv, Or.inl ?_⟩
    rw [h.1]; exact ⟨rfl, by show (k:ℝ) * _ + val (fmod nt qp) = _; rw [hvr]; ring⟩
  · refine ⟨hinv, Or.inr ?_⟩
    rw [h.1]
    refine ⟨rfl, val_zero, ?_⟩
    have e : ((k + 1 : ℕ) : ℝ) * val (qp : F) - val nt = -(val (fmod nt (qp : F)) - val (qp : F)) := by
      rw [hvr]; push_cast; ring
    exact (congrArg abs e).trans_lt (by rw [abs_neg]; exact h.2)
  · linarith only [h.2.2, hrq, val_e10_pos (F := F)]

theorem feq_one_two : feq (one : F) two = false := by
  rw [Bool.eq_false_iff]; intro h
  rw [feq_spec fin_one fin_two, val_one, val_two] at h; norm_num at h

theorem rep_mul_piV_pow2 (j : ℕ) (hj : j ≤ 8) : Rep (F := F) ((2:ℝ) ^ j * piV F) := by
  have h1 : (1:ℝ) ≤ 2 ^ j := one_le_pow₀ (by norm_num)
  have h2 : (2:ℝ) ^ j ≤ 2 ^ 8 := pow_le_pow_right₀ (by norm_num) hj
  have hpos : 0 < (2:ℝ) ^ j * piV F := mul_pos (by positivity) piV_pos
  refine rep_scale_mid (j : ℤ) rep_piV (by rw [zpow_natCast, mul_comm]) ?_ ?_ <;> rw [abs_of_pos hpos]
  · exact le_trans (by norm_num) (mul_le_mul h1 piV_gt3.le (by norm_num) (by positivity))
  · exact (mul_le_mul h2 piV_lt4.le piV_pos.le (by positivity)).trans (by norm_num)

/-- with divisor `1.0` the raw total is `p·π_f` whichever order of operations the normal-range test selects, when that product is
    representable -/
theorem newRawTotal_one_rep {p : F} (hp : Fin p) (hrep : Rep (F := F) (val p * piV F)) (hr : InRange (F := F) (val p * piV F)) :
    Fin (newRawTotal p one) ∧ val (newRawTotal p one) = val p * piV F := by
  unfold newRawTotal
  simp only
  split_ifs
  · obtain ⟨hfm, hvm⟩ := fmul_rep hp fin_pi (by rw [val_pi]) hrep hr
    exact hvm ▸ fdiv_one hfm
  · obtain ⟨hf1, hv1⟩ := fdiv_one hp
    exact fmul_rep hf1 fin_pi (by rw [hv1, val_pi]) hrep hr

/-- `m·π_f` is representable for `m` a power of two (or zero): every step of the general path is then exact -/
theorem new_pi_multiple (m : ℕ) (hm : m = 0 ∨ ∃ j ≤ 8, m = 2 ^ j) :
    Angle.new (FloatLike.ofNat m : F) one ≈ₐ ⟨zero, 2 * m⟩ := by
  obtain ⟨hm53, hrep, hm256⟩ : m < 2 ^ 53 ∧ Rep (F := F) ((m : ℝ) * piV F) ∧ (m : ℝ) ≤ 256 := by
    rcases hm with rfl | ⟨j, hj, rfl⟩
    · exact ⟨by norm_num, by simpa using rep_zero (F := F), by norm_num⟩
    · refine ⟨Nat.pow_lt_pow_right (by norm_num) (by omega), by push_cast; exact rep_mul_piV_pow2 j hj, ?_⟩
      push_cast; exact (pow_le_pow_right₀ (by norm_num) hj).trans (by norm_num)
  have hf := fin_nat (F := F) hm53
  have hv := val_nat (F := F) hm53
  have hmp0 : 0 ≤ (m : ℝ) * piV F := mul_nonneg (Nat.cast_nonneg m) piV_pos.le
  have hmp1 : (m : ℝ) * piV F ≤ 1024 := (mul_le_mul hm256 piV_lt4.le piV_pos.le (by norm_num)).trans (by norm_num)
  have hrange : InRange (F := F) ((m : ℝ) * piV F) :=
    inRange_of_abs_le_2p60 (by rw [abs_of_nonneg hmp0]; exact hmp1.trans (by norm_num))
  obtain ⟨t, ht⟩ : ∃ t : F, newRawTotal (FloatLike.ofNat m : F) one = t := ⟨_, rfl⟩
  obtain ⟨hfr, hvr⟩ : Fin t ∧ val t = (m : ℝ) * piV F := ht ▸ hv ▸ newRawTotal_one_rep hf (hv ▸ hrep) (hv ▸ hrange)
  have hnl : flt t zero = false := by
    rw [Bool.eq_false_iff, ne_eq, flt_spec hfr fin_zero, hvr, val_zero]; exact not_lt.mpr hmp0
  have hnew : Angle.new (FloatLike.ofNat m : F) one =
      normalizeBoundaries ⟨fmod t qp, toUsize (FloatLike.round (fdiv (fsub t (fmod t qp)) qp))⟩ := by
    unfold Angle.new newGeneral newTotal
    simp [feq_one_two, ht, hnl]
  rw [hnew]
  obtain ⟨hinv, hcase⟩ := newCore_spec t hfr (hvr ▸ hmp0) (hvr ▸ hmp1.trans (by norm_num))
  have hq := val_qp (F := F)
  have hfl : ⌊val t / val (qp : F)⌋₊ = 2 * m := by
    rw [hvr, hq, show (m : ℝ) * piV F / (piV F / 2) = ((2 * m : ℕ) : ℝ) by
      push_cast; field_simp [piV_pos.ne']]
    exact Nat.floor_natCast _
  rw [hfl] at hcase
  rcases hcase with ⟨hb, hT⟩ | ⟨hb, _, hT⟩
  · refine ⟨hb, hinv.1, fin_zero, ?_⟩
    rw [hb, hvr, hq, show ((2 * m : ℕ) : ℝ) * (piV F / 2) = m * piV F by push_cast; ring] at hT
    rw [val_zero]; exact add_eq_left.mp hT
  · -- a snap is impossible: the total is a whole number of quarter turns
    rw [hb, hvr, hq, show ((2 * m + 1 : ℕ) : ℝ) * (piV F / 2) - m * piV F = piV F / 2 by push_cast; ring,
      abs_of_pos (half_pos piV_pos)] at hT
    exact absurd (hT.trans_le val_e10_small)
      (not_lt.mpr (le_trans (by norm_num) (div_le_div_of_nonneg_right piV_gt3.le two_pos.le)))

theorem new_zero_one : Angle.new (zero : F) one ≈ₐ ⟨zero, 0⟩ := by
  have := new_pi_multiple (F := F) 0 (Or.inl rfl); simpa [zero] using this
theorem new_one_one : Angle.new (one : F) one ≈ₐ ⟨zero, 2⟩ := by
  have := new_pi_multiple (F := F) 1 (Or.inr ⟨0, by norm_num, by norm_num⟩); simpa [one] using this
theorem new_four_one : Angle.new (four : F) one ≈ₐ ⟨zero, 8⟩ := by
  have := new_pi_multiple (F := F) 4 (Or.inr ⟨2, by norm_num, by norm_num⟩); simpa [four] using this

end Angle
end GeonumModel
