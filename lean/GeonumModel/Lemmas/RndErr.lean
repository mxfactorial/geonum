/-
  GeonumModel.Lemmas.RndErr — how rounding errors compose.  `|y - x| ≤ |x| * a + b` reads "`y` is `x` to within `a` relative and
  `b` absolute"; one rounding is such a step with `a = 2⁻⁵³`, `b = 2⁻¹⁰⁷⁵` (`rnd_rel`).  The lemmas chain such steps, scale them and
  bound the approximant, all about real variables; in front of them, the triangle inequality in the shapes error bounds take.
-/
import GeonumModel.Lemmas.SpecBasic

namespace GeonumModel
open FloatLike FloatSpec
variable {F : Type} [FloatSpec F]

theorem abs_sub_le_add {x y z a b : ℝ} (h1 : |x - y| ≤ a) (h2 : |y - z| ≤ b) : |x - z| ≤ a + b :=
  (abs_sub_le x y z).trans (add_le_add h1 h2)

theorem abs_sub_lt_add {x y z e f : ℝ} (h1 : |z - y| < e) (h2 : |y - x| ≤ f) : |z - x| < e + f :=
  lt_of_le_of_lt (abs_sub_le z y x) (add_lt_add_of_lt_of_le h1 h2)

theorem abs_sub_le_two {x y r β : ℝ} (hx : |x - r| ≤ β) (hy : |y - r| ≤ β) : |x - y| ≤ 2 * β := by
  rw [abs_sub_comm] at hy; exact (abs_sub_le_add hx hy).trans (two_mul β).ge

theorem abs_mul_unit_le {m c : ℝ} (hm : 0 ≤ m) (hc : |c| ≤ 1) : |m * c| ≤ m := by
  rw [abs_mul, abs_of_nonneg hm]; exact mul_le_of_le_one_right hm hc

theorem abs_mul_sub_le {m x y t : ℝ} (hm : 0 ≤ m) (h : |x - y| ≤ t) : |m * x - m * y| ≤ m * t := by
  rw [← mul_sub, abs_mul, abs_of_nonneg hm]; exact mul_le_mul_of_nonneg_left h hm

theorem approx_abs_le {x y a b : ℝ} (h : |y - x| ≤ |x| * a + b) : |y| ≤ |x| * (1 + a) + b := by
  have := abs_sub_abs_le_abs_sub y x
  linarith

theorem approx_trans {x y z a b c d : ℝ} (hc : 0 ≤ c) (h1 : |y - x| ≤ |x| * a + b) (h2 : |z - y| ≤ |y| * c + d) :
    |z - x| ≤ |x| * (a + c + a * c) + (b + d + b * c) := by
  have hy := mul_le_mul_of_nonneg_right (approx_abs_le h1) hc
  have := abs_sub_le z y x
  linarith

theorem approx_trans_lt {x y z a b c d : ℝ} (hc : 0 ≤ c) (h1 : |y - x| ≤ |x| * a + b) (h2 : |z - y| < |y| * c + d) :
    |z - x| < |x| * (a + c + a * c) + (b + d + b * c) := by
  have hy := mul_le_mul_of_nonneg_right (approx_abs_le h1) hc
  have := abs_sub_le z y x
  linarith

theorem approx_add_right {x y r a b : ℝ} (hr : 0 ≤ r) (hx : 0 ≤ x) (ha : 0 ≤ a) (h : |y - x| ≤ |x| * a + b) :
    |y + r - (x + r)| ≤ |x + r| * a + b := by
  rw [add_sub_add_right_eq_sub, abs_of_nonneg (add_nonneg hx hr)]
  rw [abs_of_nonneg hx] at h
  have := mul_nonneg hr ha
  linarith

theorem approx_step {x y z a b ε τ : ℝ} (hε0 : 0 ≤ ε) (hε1 : ε ≤ 1) (ha : a ≤ 1) (hb : 0 ≤ b)
    (h1 : |y - x| ≤ |x| * a + b) (h2 : |z - y| ≤ |y| * ε + τ) :
    |z - x| ≤ |x| * (a + 2 * ε) + (2 * b + τ) := by
  have h := approx_trans hε0 h1 h2
  have h3 : |x| * ε * a ≤ |x| * ε * 1 := mul_le_mul_of_nonneg_left ha (mul_nonneg (abs_nonneg x) hε0)
  have h4 : b * ε ≤ b * 1 := mul_le_mul_of_nonneg_left hε1 hb
  linarith

theorem approx_mul {x y a b : ℝ} (k : ℝ) (h : |y - x| ≤ |x| * a + b) : |y * k - x * k| ≤ |x * k| * a + b * |k| := by
  rw [← sub_mul, abs_mul, abs_mul]
  have := mul_le_mul_of_nonneg_right h (abs_nonneg k)
  linarith

theorem approx_div {x y a b : ℝ} (k : ℝ) (h : |y - x| ≤ |x| * a + b) : |y / k - x / k| ≤ |x / k| * a + b / |k| := by
  have := approx_mul k⁻¹ h
  rwa [abs_inv] at this

/-- one step of a running sum of non-negative terms, `S ≈ s` and `R ≈ S + x`: unlike in `approx_step` the absolute error is not
    doubled, as long as `c·ε ≤ τ` -/
theorem sum_step_real {S s x R K c ε τ : ℝ} (hs : 0 ≤ s) (hx : 0 ≤ x) (hK0 : 0 ≤ K) (hK1 : K ≤ 1)
    (hε : 0 ≤ ε) (hcε : c * ε ≤ τ) (hS : |S - s| ≤ |s| * K + c) (hR : |R - (S + x)| ≤ |S + x| * ε + τ) :
    |R - (s + x)| ≤ (K + 2 * ε) * (s + x) + (c + 2 * τ) := by
  have hsx := add_nonneg hs hx
  have h := approx_trans hε (approx_add_right hx hs hK0 hS) hR
  rw [abs_of_nonneg hsx] at h
  have h1 : (s + x) * (K * ε) ≤ (s + x) * ε := mul_le_mul_of_nonneg_left (mul_le_of_le_one_left hε hK1) hsx
  linarith

theorem sum_bound_real {S s x K c : ℝ} (hs : 0 ≤ s) (hx : 0 ≤ x) (hK : K ≤ 1) (hc : c ≤ 1) (hS : |S - s| ≤ |s| * K + c) :
    |S + x| ≤ 2 * (s + x) + 1 := by
  have h2 := abs_add_le (S - s) (s + x)
  have h3 : s * K ≤ s * 1 := mul_le_mul_of_nonneg_left hK hs
  rw [abs_of_nonneg hs] at hS
  rw [show S - s + (s + x) = S + x by ring, abs_of_nonneg (add_nonneg hs hx)] at h2
  linarith

/-- `rnd_err` in the form the composition lemmas take -/
theorem rnd_rel (x : ℝ) : |rnd (F := F) x - x| ≤ |x| * (1 / 2 ^ 53) + 1 / 2 ^ 1075 := by
  have := rnd_err (F := F) x
  rwa [div_eq_mul_one_div] at this

theorem rnd_step {x y a b : ℝ} (ha : a ≤ 1) (hb : 0 ≤ b) (h : |y - x| ≤ |x| * a + b) :
    |rnd (F := F) y - x| ≤ |x| * (a + 2 * (1 / 2 ^ 53)) + (2 * b + 1 / 2 ^ 1075) :=
  approx_step (by positivity) (by norm_num) ha hb h (rnd_rel y)

/-- a rounded value in the normal range carries no absolute error: `2⁻¹⁰⁷⁵` is `2⁻⁵³` of the smallest normal number -/
theorem rnd_rel_normal {x : ℝ} (h : 1 / 2 ^ 1022 ≤ |rnd (F := F) x|) :
    |rnd (F := F) x - x| ≤ |x| * (3 * (1 / 2 ^ 53)) := by
  have he := rnd_rel (F := F) x
  have hy := approx_abs_le he
  have ht : (1:ℝ) / 2 ^ 1075 = 1 / 2 ^ 1022 * (1 / 2 ^ 53) := by
    rw [show (1075:ℕ) = 1022 + 53 by norm_num, pow_add]; field_simp
  have hu : (1:ℝ) / 2 ^ 53 ≤ 1 / 4 := by norm_num
  have hu0 : (0:ℝ) < 1 / 2 ^ 53 := by positivity
  have hN : (0:ℝ) < 1 / 2 ^ 1022 := by positivity
  rw [ht] at he hy
  generalize (1:ℝ) / 2 ^ 1022 = N at *
  generalize (1:ℝ) / 2 ^ 53 = u at *
  generalize |rnd (F := F) x| = r at *
  generalize |rnd (F := F) x - x| = e at *
  have hx := abs_nonneg x
  generalize |x| = X at *
  -- N ≤ r ≤ X(1+u) + Nu, so Nu(1 − u) ≤ Xu(1+u)
  have h1 : N * u ≤ (X * (1 + u) + N * u) * u := mul_le_mul_of_nonneg_right (le_trans h hy) hu0.le
  have h2 : N * u * u ≤ N * u * (1 / 4) := mul_le_mul_of_nonneg_left hu (mul_nonneg hN.le hu0.le)
  have h3 : X * u * u ≤ X * u * (1 / 4) := mul_le_mul_of_nonneg_left hu (mul_nonneg hx hu0.le)
  have h4 := mul_nonneg hx hu0.le
  linarith

end GeonumModel
