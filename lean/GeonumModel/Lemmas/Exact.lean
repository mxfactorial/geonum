/-
  GeonumModel.Lemmas.Exact — interpretation E: the model over exact reals (`F = ℝ`, `rnd = id`, `π_f = π`).
  Every threshold (`1e-10`, `1e-15`), branch and cast of the code is still present; only rounding is switched off.
-/
import GeonumModel.Spec.RealWitness
import GeonumModel.Lemmas.Total

namespace GeonumModel.Exact
open GeonumModel FloatLike FloatSpec Angle

/-! the instance `FloatLike ℝ` / `FloatSpec ℝ` unfolded: every rule is `rfl`, stated so that `rw` and `simp only` can use it -/
theorem val_id (x : ℝ) : val (F := ℝ) x = x := rfl
theorem r_add (a b : ℝ) : fadd a b = a + b := rfl
theorem r_sub (a b : ℝ) : fsub a b = a - b := rfl
theorem r_mul (a b : ℝ) : fmul a b = a * b := rfl
theorem r_div (a b : ℝ) : fdiv a b = a / b := rfl
theorem r_neg (a : ℝ) : fneg a = -a := rfl
theorem r_abs (a : ℝ) : fabs a = |a| := rfl
theorem r_max (a b : ℝ) : fmax a b = max a b := rfl
theorem r_ceil (a : ℝ) : FloatLike.ceil a = ((⌈a⌉ : ℤ) : ℝ) := rfl
theorem r_usize (a : ℝ) : toUsize a = ⌊a⌋₊ := rfl
theorem r_lt (a b : ℝ) : flt a b = decide (a < b) := rfl
theorem r_le (a b : ℝ) : fle a b = decide (a ≤ b) := rfl
theorem r_eq (a b : ℝ) : feq a b = decide (a = b) := rfl
theorem pi_real : (FloatLike.pi : ℝ) = Real.pi := rfl

theorem zero_real : (zero : ℝ) = 0 := val_zero (F := ℝ)
theorem one_real : (one : ℝ) = 1 := val_one (F := ℝ)
theorem two_real : (two : ℝ) = 2 := val_two (F := ℝ)
theorem three_real : (three : ℝ) = 3 := val_three (F := ℝ)
theorem four_real : (four : ℝ) = 4 := val_four (F := ℝ)
theorem e10_real : (e10 : ℝ) = 1 / 10 ^ 10 := (e10_spec (F := ℝ)).2
theorem e15_real : (e15 : ℝ) = 1 / 10 ^ 15 := (e15_spec (F := ℝ)).2
theorem val_e10_real : val (e10 : ℝ) = 1 / 10 ^ 10 := e10_real
theorem val_qp_real : val (qp : ℝ) = Real.pi / 2 := by rw [val_qp]; rfl
theorem qp_real : (qp : ℝ) = Real.pi / 2 := val_qp_real
theorem four_qp_real : 4 * val (qp : ℝ) = 2 * Real.pi := by rw [val_qp_real]; ring

theorem cos_lipschitz (x d : ℝ) : |Real.cos (x + d) - Real.cos x| ≤ |d| := by
  simpa using Real.abs_cos_sub_cos_le (x + d) x
theorem sin_lipschitz (x d : ℝ) : |Real.sin (x + d) - Real.sin x| ≤ |d| := by
  simpa using Real.abs_sin_sub_sin_le (x + d) x

/-- total angle of an exact-arithmetic angle, in radians -/
noncomputable def T (a : Angle ℝ) : ℝ := (a.blade : ℝ) * (Real.pi / 2) + a.rem

theorem T_eq_Tw (a : Angle ℝ) : T a = Tw (Real.pi / 2) a := rfl
theorem Tq_real (a : Angle ℝ) : Angle.Tq a = T a := by rw [T_eq_Tw, Tq_eq_Tw, val_qp_real]

/-- `π/2` is the machine's own quarter turn here, so the laws of `Lemmas/Total.lean` hold with the snap slack alone -/
theorem slack_real : val (e10 : ℝ) + 1 / 10 ^ 15 + |Real.pi / 2 - val (qp : ℝ)| = 1 / 10 ^ 10 + 1 / 10 ^ 15 := by
  rw [val_qp_real, sub_self, abs_zero, add_zero, val_id, e10_real]

theorem gradeAngle_eq_T (a : Angle ℝ) : a.gradeAngle = T a - ((a.blade / 4 : ℕ) : ℝ) * (2 * Real.pi) := by
  rw [T_eq_Tw, Tw_grade]
  show (a.grade : ℝ) * Real.pi / 2 + a.rem = _
  rw [val_id]; ring

theorem cos_gradeAngle (a : Angle ℝ) : Real.cos a.gradeAngle = Real.cos (T a) := by
  rw [gradeAngle_eq_T]; exact Real.cos_sub_nat_mul_two_pi _ _

theorem sin_gradeAngle (a : Angle ℝ) : Real.sin a.gradeAngle = Real.sin (T a) := by
  rw [gradeAngle_eq_T]; exact Real.sin_sub_nat_mul_two_pi _ _

theorem add_total_real {a b : Angle ℝ} (ha : a.Inv) (hb : b.Inv) :
    ∃ δ : ℝ, |δ| < 1 / 10 ^ 10 + 1 / 10 ^ 15 ∧ T (a.geometricAdd b) = T a + T b + δ := by
  obtain ⟨δ, hδ, h⟩ := add_total_w (Real.pi / 2) ha hb
  exact ⟨δ, slack_real ▸ hδ, h⟩

theorem add_whole_total_real {a z : Angle ℝ} (ha : a.Inv) (hz : z.rem = 0) :
    T (a.geometricAdd z) = T a + T z := by
  show Tw _ _ = Tw _ a + ((z.blade : ℝ) * (Real.pi / 2) + z.rem)
  rw [Tw_add_whole _ ha trivial hz, hz, add_zero]

theorem negate_total_real {a : Angle ℝ} (ha : a.Inv) : T a.negate = T a + Real.pi := by
  rw [T_eq_Tw, Tw_negate _ ha, T_eq_Tw]; ring

/-- `δ` is the snap: remainders within `1e-15` of each other, or a result within `1e-10` of a quarter turn -/
theorem sub_total_real {a b : Angle ℝ} (ha : a.Inv) (hb : b.Inv) :
    ∃ (δ : ℝ) (m : ℤ), |δ| < 1 / 10 ^ 10 + 1 / 10 ^ 15 ∧ T (b.geometricSub a) = T b - T a + δ + (m : ℝ) * (2 * Real.pi) := by
  obtain ⟨δ, m, hδ, h⟩ := sub_total_w (Real.pi / 2) hb ha
  exact ⟨δ, m, slack_real ▸ hδ, by rw [T_eq_Tw, h, T_eq_Tw, T_eq_Tw]; ring⟩

theorem cos_sub_gradeAngle {a b : Angle ℝ} (ha : a.Inv) (hb : b.Inv) :
    ∃ δ : ℝ, |δ| < 1 / 10 ^ 10 + 1 / 10 ^ 15 ∧
      Real.cos (b.geometricSub a).gradeAngle = Real.cos (T b - T a + δ) ∧
      Real.sin (b.geometricSub a).gradeAngle = Real.sin (T b - T a + δ) := by
  obtain ⟨δ, m, hδ, hT⟩ := sub_total_real ha hb
  exact ⟨δ, hδ, by rw [cos_gradeAngle, hT]; exact Real.cos_add_int_mul_two_pi _ m,
    by rw [sin_gradeAngle, hT]; exact Real.sin_add_int_mul_two_pi _ m⟩

/-! ### `Angle::new` -/

/-- the normalised total: `p·π/d` shifted up by whole turns until non-negative -/
theorem newTotal_real (p d : ℝ) :
    ∃ n : ℕ, Angle.newTotal p d = p * Real.pi / d + (n : ℝ) * (2 * Real.pi) ∧ 0 ≤ Angle.newTotal p d ∧
      Angle.newTotal p d ≤ |p * Real.pi / d| + 2 * Real.pi ∧
      (p * Real.pi / d < 0 → Angle.newTotal p d < 2 * Real.pi) ∧ (0 ≤ p * Real.pi / d → n = 0) := by
  have hP : 0 < 2 * Real.pi := by positivity
  have hraw : Angle.newRawTotal p d = p * Real.pi / d := by
    unfold Angle.newRawTotal
    simp only [r_mul, r_div, pi_real]
    split
    · rfl
    · ring
  generalize p * Real.pi / d = t at hraw ⊢
  have hform : Angle.newTotal p d =
      if t < 0 then max (t + ((⌈|t| / (4 * (Real.pi / 2))⌉ : ℤ) : ℝ) * 4 * (Real.pi / 2)) 0 else t := by
    unfold Angle.newTotal
    simp only [r_add, r_mul, r_div, r_abs, r_max, r_ceil, r_lt, zero_real, four_real, qp_real,
      decide_eq_true_eq, hraw]
  rw [hform]
  by_cases h : t < 0
  · -- `n = ⌈|t| / 2π⌉` whole turns bring `t` into `[0, 2π)`
    have hq0 : 0 ≤ |t| / (2 * Real.pi) := by positivity
    rw [if_pos h, show (4:ℝ) * (Real.pi / 2) = 2 * Real.pi by ring, ← Int.natCast_ceil_eq_ceil hq0, Int.cast_natCast]
    have hc1 := (div_le_iff₀ hP).mp (Nat.le_ceil (|t| / (2 * Real.pi)))
    have hc2 := mul_lt_mul_of_pos_right (Nat.ceil_lt_add_one hq0) hP
    rw [add_mul, div_mul_cancel₀ _ hP.ne', one_mul, abs_of_neg h] at hc2
    rw [abs_of_neg h] at hc1 ⊢
    generalize ⌈-t / (2 * Real.pi)⌉₊ = n at hc1 hc2 ⊢
    have hge : 0 ≤ t + (n : ℝ) * 4 * (Real.pi / 2) := by linarith only [hc1]
    rw [max_eq_left hge]
    exact ⟨n, by ring, hge, by linarith only [hc2, h], fun _ => by linarith only [hc2], fun hc => absurd hc (not_le.mpr h)⟩
  · rw [if_neg h]
    push Not at h
    exact ⟨0, by simp, h, by rw [abs_of_nonneg h]; linarith only [hP], fun hc => absurd hc (not_lt.mpr h), fun _ => rfl⟩

/-- `newCore_spec` at `F = ℝ`, on the general path -/
theorem new_general_real {p d : ℝ} (hfast : (feq d (two : ℝ) && feq (FloatLike.fract p) (zero : ℝ)) = false)
    (h0 : 0 ≤ Angle.newTotal p d) (hbig : Angle.newTotal p d ≤ 2 ^ 48) :
    (Angle.new p d).Inv ∧
    (((Angle.new p d).blade = ⌊Angle.newTotal p d / (Real.pi / 2)⌋₊ ∧ T (Angle.new p d) = Angle.newTotal p d) ∨
      ((Angle.new p d).blade = ⌊Angle.newTotal p d / (Real.pi / 2)⌋₊ + 1 ∧ (Angle.new p d).rem = 0 ∧
        |((Angle.new p d).blade : ℝ) * (Real.pi / 2) - Angle.newTotal p d| < 1 / 10 ^ 10)) := by
  have hcore := newCore_spec (F := ℝ) (Angle.newTotal p d) trivial h0 hbig
  have hnew : Angle.new p d = normalizeBoundaries ⟨fmod (Angle.newTotal p d) qp,
      toUsize (FloatLike.round (fdiv (fsub (Angle.newTotal p d) (fmod (Angle.newTotal p d) qp)) qp))⟩ := by
    unfold Angle.new newGeneral; simp [hfast]
  simp only at hcore
  rw [← hnew, val_qp_real, e10_real] at hcore
  exact hcore

theorem new_blade_le_four_real {p d : ℝ} (hfast : (feq d (two : ℝ) && feq (FloatLike.fract p) (zero : ℝ)) = false)
    (hlt : Angle.newTotal p d < 2 * Real.pi) (h0 : 0 ≤ Angle.newTotal p d) :
    (Angle.new p d).blade ≤ 4 ∧ ((Angle.new p d).blade = 4 → (Angle.new p d).rem = 0) := by
  have hpi := Real.pi_pos
  have h48 : (2:ℝ) * 4 ≤ 2 ^ 48 := by norm_num
  have := Real.pi_lt_four
  have hfl : ⌊Angle.newTotal p d / (Real.pi / 2)⌋₊ ≤ 3 := by
    have : ⌊Angle.newTotal p d / (Real.pi / 2)⌋₊ < 4 := by
      rw [Nat.floor_lt (div_nonneg h0 (by positivity)), div_lt_iff₀ (by positivity)]; push_cast; linarith
    omega
  rcases (new_general_real hfast h0 (by linarith)).2 with ⟨hb, _⟩ | ⟨hb, hr, _⟩
  · exact ⟨by omega, fun h4 => by omega⟩
  · exact ⟨by omega, fun _ => hr⟩

theorem new_total_general_real {p d : ℝ} (hb : |p * Real.pi / d| ≤ 2 ^ 42)
    (hfast : (feq d (two : ℝ) && feq (FloatLike.fract p) (zero : ℝ)) = false) :
    (Angle.new p d).Inv ∧ ∃ (δ : ℝ) (n : ℕ), |δ| < 1 / 10 ^ 10 ∧
      T (Angle.new p d) = p * Real.pi / d + δ + (n : ℝ) * (2 * Real.pi) ∧ (0 ≤ p * Real.pi / d → n = 0) := by
  obtain ⟨n, hnt, hnt0, hntb, _, hn0⟩ := newTotal_real p d
  obtain ⟨hinv, hcase⟩ := new_general_real hfast hnt0 (by
    linarith only [hntb, hb, Real.pi_lt_four, show (2:ℝ) ^ 42 + 2 * 4 ≤ 2 ^ 48 by norm_num])
  refine ⟨hinv, ?_⟩
  rcases hcase with ⟨_, hT⟩ | ⟨_, hr0, hT⟩
  · exact ⟨0, n, by norm_num, by rw [hT, hnt]; ring, hn0⟩
  · exact ⟨_, n, hT, by unfold T; rw [hr0, hnt]; ring, hn0⟩

theorem new_total_real {p d : ℝ} (hb : |p * Real.pi / d| ≤ 2 ^ 42) :
    (Angle.new p d).Inv ∧
    ∃ (δ : ℝ) (m : ℤ), |δ| < 1 / 10 ^ 10 ∧ T (Angle.new p d) = p * Real.pi / d + δ + (m : ℝ) * (2 * Real.pi) := by
  by_cases hfast : (feq d (two : ℝ) && feq (FloatLike.fract p) (zero : ℝ)) = true
  · -- whole `p = k` over the divisor `2.0`, the fast path: `k` quarter turns, plus `m` whole turns when `k < 0`
    obtain ⟨hdf, (hd2 : d = 2), k, (hk : p = k)⟩ := fast_args (F := ℝ) trivial trivial hfast
    have hk50 : |k| < 2 ^ 50 := by
      rw [hk, hd2, mul_div_assoc, abs_mul, abs_of_pos (show 0 < Real.pi / 2 by positivity)] at hb
      have : |(k : ℝ)| < 2 ^ 50 :=
        ((le_mul_of_one_le_right (abs_nonneg _) (by linarith only [Real.pi_gt_three])).trans hb).trans_lt (by norm_num)
      exact_mod_cast this
    obtain ⟨B, m, hnew, hB⟩ : ∃ (B : ℕ) (m : ℤ), Angle.new p d = ⟨zero, B⟩ ∧ (B : ℤ) = k + m * 4 := by
      rcases lt_or_ge k 0 with hneg | hnn
      · exact ⟨_, (-k + 3 + 3) / 4, by rw [hd2, ← two_real]; exact new_two_of_negInt trivial hk hneg hk50,
          Int.toNat_of_nonneg (by omega)⟩
      · obtain ⟨n, rfl⟩ := Int.eq_ofNat_of_zero_le hnn
        exact ⟨n, 0, new_two_of_nat hdf trivial (by rw [hk]; exact Int.cast_natCast n) (by have := (abs_lt.mp hk50).2; omega),
          by simp⟩
    refine ⟨hnew ▸ inv_zero _, 0, m, by norm_num, ?_⟩
    rw [hnew]
    show ((B : ℕ) : ℝ) * (Real.pi / 2) + (zero : ℝ) = _
    rw [zero_real, ← Int.cast_natCast, hB, hk, hd2]; push_cast; ring
  · obtain ⟨hinv, δ, n, hδ, hT, _⟩ := new_total_general_real hb (by simpa using hfast)
    exact ⟨hinv, δ, n, hδ, by rw [hT, Int.cast_natCast]⟩

theorem new_total_nonneg_real {p d : ℝ} (hb : |p * Real.pi / d| ≤ 2 ^ 42) (h0 : 0 ≤ p * Real.pi / d)
    (hfast : (feq d (two : ℝ) && feq (FloatLike.fract p) (zero : ℝ)) = false) :
    ∃ δ : ℝ, |δ| < 1 / 10 ^ 10 ∧ T (Angle.new p d) = p * Real.pi / d + δ := by
  obtain ⟨_, δ, n, hδ, hT, hn⟩ := new_total_general_real hb hfast
  rw [hn h0, Nat.cast_zero, zero_mul, add_zero] at hT
  exact ⟨δ, hδ, hT⟩

theorem new_radians_real {x : ℝ} (hx : |x| ≤ 2 ^ 42) :
    (Angle.new x Real.pi).Inv ∧
    ∃ (δ : ℝ) (m : ℤ), |δ| < 1 / 10 ^ 10 ∧ T (Angle.new x Real.pi) = x + δ + (m : ℝ) * (2 * Real.pi) := by
  have hq : x * Real.pi / Real.pi = x := mul_div_cancel_right₀ x Real.pi_ne_zero
  have h := new_total_real (p := x) (d := Real.pi) (by rwa [hq])
  rwa [hq] at h

theorem new_radians_blade_real {x : ℝ} (hx : x ≤ Real.pi) :
    (Angle.new x Real.pi).blade ≤ 4 ∧ ((Angle.new x Real.pi).blade = 4 → (Angle.new x Real.pi).rem = 0) := by
  -- not the fast path: the divisor is `π`, not `2`
  have hfast : (feq (Real.pi : ℝ) (two : ℝ) && feq (FloatLike.fract x) (zero : ℝ)) = false := by
    have : feq (Real.pi : ℝ) (two : ℝ) = false := by
      rw [two_real, r_eq]; exact decide_eq_false (by linarith only [Real.pi_gt_three])
    simp [this]
  obtain ⟨n, hnt, hnt0, _, hneg, hpos⟩ := newTotal_real x Real.pi
  rw [mul_div_cancel_right₀ x Real.pi_ne_zero] at hneg hpos hnt
  refine new_blade_le_four_real hfast ?_ hnt0
  by_cases hs : x < 0
  · exact hneg hs
  · rw [hnt, hpos (not_lt.mp hs), Nat.cast_zero, zero_mul, add_zero]; linarith only [hx, Real.pi_pos]

end GeonumModel.Exact
