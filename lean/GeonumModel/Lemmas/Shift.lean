/-
  GeonumModel.Lemmas.Shift — G-tier: how every operation reacts to adding quarter turns to an operand's blade count.
  No assumption on the arithmetic: the conclusions are equalities of structures (bit-identity on the machine).
-/
import GeonumModel.Lemmas.Structural

set_option linter.unusedSectionVars false

namespace GeonumModel
open FloatLike
variable {F : Type} [FloatLike F]

namespace Angle

theorem shift_shift (a : Angle F) (i j : Nat) : (a.shift i).shift j = a.shift (i + j) := by
  simp [shift, Nat.add_assoc]

theorem shift_zero (a : Angle F) : a.shift 0 = a := by simp [shift]

theorem shift4_eq_shift (a : Angle F) (n : Nat) : a.shift4 n = a.shift (4 * n) := rfl

theorem geometricAdd_shift (a b : Angle F) (i j : Nat) :
    (a.shift i).geometricAdd (b.shift j) = (a.geometricAdd b).shift (i + j) := by
  unfold geometricAdd shift
  simp only
  split
  · simp; omega
  · split
    · simp; omega
    · rw [normalizeBoundaries_eq, normalizeBoundaries_eq]; simp; omega

theorem shift_geometricAdd (x y : Angle F) (k : Nat) : (x.shift k).geometricAdd y = (x.geometricAdd y).shift k := by
  have := geometricAdd_shift x y k 0
  rwa [shift_zero, Nat.add_zero] at this

theorem geometricSub_shift4 (a b : Angle F) (n m : Nat) :
    ((a.shift4 n).geometricSub (b.shift4 m)).rem = (a.geometricSub b).rem ∧
    ((a.shift4 n).geometricSub (b.shift4 m)).blade % 4 = (a.geometricSub b).blade % 4 := by
  unfold geometricSub shift4
  simp only
  have key : ∀ d : Int, wrap4 ((((a.blade + 4 * n : Nat) : Int) - ((b.blade + 4 * m : Nat) : Int)) + d) % 4
      = wrap4 (((a.blade : Int) - (b.blade : Int)) + d) % 4 := by
    intro d
    have : (((a.blade + 4 * n : Nat) : Int) - ((b.blade + 4 * m : Nat) : Int)) + d
        = ((a.blade : Int) - (b.blade : Int) + d) + 4 * ((n : Int) - (m : Int)) := by push_cast; omega
    rw [this]; exact wrap4_shift_mod _ _
  split
  · refine ⟨rfl, ?_⟩
    simpa using key 0
  · rw [normalizeBoundaries_eq, normalizeBoundaries_eq]
    refine ⟨rfl, ?_⟩
    simp only
    split
    · have := key (-1)
      simp only [Int.add_neg_one] at this
      omega
    · have := key 0
      simp only [Int.add_zero] at this
      omega

theorem gradeAngle_congr {x y : Angle F} (hr : x.rem = y.rem) (hb : x.blade % 4 = y.blade % 4) :
    x.gradeAngle = y.gradeAngle := by
  unfold gradeAngle grade; rw [hr, hb]

theorem gradeAngle_shift4 (a : Angle F) (n : Nat) : (a.shift4 n).gradeAngle = a.gradeAngle :=
  gradeAngle_congr rfl (by simp [shift4])

/-- the key fact of dimension freedom (C08): dot, wedge, distance and projection read a pair of angles through this value only -/
theorem sub_gradeAngle_shift4 (a b : Angle F) (n m : Nat) :
    ((a.shift4 n).sub (b.shift4 m)).gradeAngle = (a.sub b).gradeAngle := by
  have h := geometricSub_shift4 a b n m
  exact gradeAngle_congr h.1 h.2

theorem project_shift4 (a onto : Angle F) (n m : Nat) :
    (a.shift4 n).project (onto.shift4 m) = a.project onto := by
  unfold project; rw [sub_gradeAngle_shift4]

theorem grade_shift4 (a : Angle F) (n : Nat) : (a.shift4 n).grade = a.grade := by simp [grade, shift4]

end Angle

namespace Geonum

def shift (g : Geonum F) (k : Nat) : Geonum F := ⟨g.mag, g.angle.shift k⟩
def shift4 (g : Geonum F) (n : Nat) : Geonum F := ⟨g.mag, g.angle.shift4 n⟩

theorem shift4_eq_shift (g : Geonum F) (n : Nat) : g.shift4 n = g.shift (4 * n) := rfl

end Geonum
end GeonumModel
