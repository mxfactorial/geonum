/-
  GeonumModel.Lemmas.FloatDivF — `Angle / f64` with a positive divisor in rounded arithmetic: the float total is divided, to within the
  snap plus a few ulps, through the five roundings of the computation (`blade·qp`, `+ rem`, `/ k`, `· π`, `/ π`); the `fmod` is exact.
-/
import GeonumModel.Lemmas.FloatNew

namespace GeonumModel
open FloatLike FloatSpec
variable {F : Type} [FloatSpec F]
namespace Angle

/-- two consecutive roundings (`blade·qp`, then `+ rem`) lose at most `3ε` relative and `3τ` absolute -/
theorem two_roundings {bq r m1 tot ε τ : ℝ} (hbq : 0 ≤ bq) (hr : 0 ≤ r) (hε0 : 0 < ε) (hε1 : ε ≤ 1) (hτ0 : 0 < τ)
    (h1 : |m1 - bq| ≤ bq * ε + τ) (h2 : |tot - (m1 + r)| ≤ (m1 + r) * ε + τ) :
    |tot - (bq + r)| ≤ (bq + r) * (3 * ε) + 3 * τ := by
  have h2' : |tot - (m1 + r)| ≤ |m1 + r| * ε + τ :=
    le_trans h2 (by have := mul_le_mul_of_nonneg_right (le_abs_self (m1 + r)) hε0.le; linarith)
  have h := approx_step hε0.le hε1 hε1 hτ0.le (approx_add_right hr hbq hε0.le (by rwa [abs_of_nonneg hbq])) h2'
  rw [abs_of_nonneg (add_nonneg hbq hr)] at h
  linarith

/-- the float total `blade·qp + rem` as `Angle / f64` computes it -/
theorem divF_total {a : Angle F} (ha : a.Inv) (hbl : a.blade ≤ 2 ^ 42) :
    ∃ t : F, (∀ k, a.divF k = Angle.new (fdiv t k) (FloatLike.pi : F)) ∧ Fin t ∧ 0 ≤ val t ∧
      |val t - Tq a| ≤ |Tq a| * (3 * (1 / 2 ^ 53)) + 3 * (1 / 2 ^ 1075) := by
  refine ⟨fadd (fmul (FloatLike.ofNat a.blade : F) qp) a.rem, fun _ => rfl, ?_⟩
  obtain ⟨har, ha0, ha1⟩ := ha
  have hq0 := val_qp_gt (F := F); have hq' := val_qp_lt (F := F)
  have he := val_e10_pos (F := F)
  have hb53 : a.blade < 2 ^ 53 := lt_of_le_of_lt hbl (by norm_num)
  have hbq0 : 0 ≤ (a.blade : ℝ) * val (qp : F) := mul_nonneg (Nat.cast_nonneg _) (by linarith only [hq0])
  have hbq1 : (a.blade : ℝ) * val (qp : F) ≤ 2 ^ 43 := by
    calc (a.blade : ℝ) * val (qp : F) ≤ 2 ^ 42 * 2 :=
          mul_le_mul (by exact_mod_cast hbl) hq'.le (by linarith only [hq0]) (by positivity)
      _ = 2 ^ 43 := by norm_num
  obtain ⟨hf1, hv1⟩ := fmul_spec (fin_nat (F := F) hb53) (fin_qp (F := F)) (by
    rw [val_nat hb53]; apply inRange_of_abs_le_2p60
    rw [abs_of_nonneg hbq0]; exact le_trans hbq1 (by norm_num))
  rw [val_nat hb53] at hv1
  have hm0 := rnd_nonneg (F := F) hbq0
  have hm1 := rnd_le (F := F) (rep_two_pow (by norm_num)) hbq1
  obtain ⟨hf2, hv2⟩ := fadd_spec hf1 har (by
    rw [hv1]; apply inRange_of_abs_le_2p60
    rw [abs_of_nonneg (add_nonneg hm0 ha0)]; linarith only [hm1, ha1, he, hq'])
  rw [hv1] at hv2
  refine ⟨hf2, by rw [hv2]; exact rnd_nonneg (add_nonneg hm0 ha0), ?_⟩
  have h1 := rnd_rel (F := F) ((a.blade : ℝ) * val (qp : F))
  have h2 := rnd_rel (F := F) (rnd (F := F) ((a.blade : ℝ) * val (qp : F)) + val a.rem)
  rw [abs_of_nonneg hbq0] at h1
  rw [abs_of_nonneg (add_nonneg hm0 ha0), ← hv2] at h2
  unfold Tq
  rw [abs_of_nonneg (add_nonneg hbq0 ha0)]
  exact two_roundings hbq0 ha0 (by positivity) (by norm_num) (by positivity) h1 h2

/-- the quotient `total / k` as `Angle / f64` computes it -/
theorem divF_quot {a : Angle F} {k : F} (ha : a.Inv) (hbl : a.blade ≤ 2 ^ 42) (hk : Fin k)
    (hk0 : 1 / 10 ^ 100 ≤ val k) (hs : Tq a / val k ≤ 2 ^ 40) :
    ∃ x : F, a.divF k = Angle.new x (FloatLike.pi : F) ∧ Fin x ∧ 0 ≤ val x ∧ val x ≤ 2 ^ 41 ∧
      |val x - Tq a / val k| ≤ |Tq a / val k| * (5 * (1 / 2 ^ 53)) + 7 * (1 / 10 ^ 200) := by
  obtain ⟨t, hdef, hf2, htot0, htt⟩ := divF_total ha hbl
  refine ⟨fdiv t k, hdef k, ?_⟩
  have hkpos : 0 < val k := lt_of_lt_of_le (by positivity) hk0
  have hs0 : 0 ≤ Tq a / val k := div_nonneg (Tq_nonneg ha) hkpos.le
  -- the absolute error of the total, divided by `k`, stays tiny
  have hτk : (1:ℝ) / 2 ^ 1075 / |val k| ≤ 1 / 10 ^ 200 := by
    rw [abs_of_pos hkpos, div_le_iff₀ hkpos]
    calc (1:ℝ) / 2 ^ 1075 ≤ 1 / 10 ^ 300 := tiny_1075_300
      _ = 1 / 10 ^ 200 * (1 / 10 ^ 100) := by rw [show (300:ℕ) = 200 + 100 by norm_num, pow_add]; field_simp
      _ ≤ 1 / 10 ^ 200 * val k := mul_le_mul_of_nonneg_left hk0 (by positivity)
  have hτ200 : (1:ℝ) / 2 ^ 1075 ≤ 1 / 10 ^ 200 :=
    tiny_1075_300.trans (one_div_pow_le_one_div_pow_of_le (by norm_num) (by norm_num))
  have h200 : (1:ℝ) / 10 ^ 200 ≤ 1 / 10 := by norm_num
  have htk := approx_div (val k) htt
  have htk0 : 0 ≤ val t / val k := div_nonneg htot0 hkpos.le
  have hub := approx_abs_le htk
  have h40 : Tq a / val k * (1 / 2 ^ 53) ≤ 1 / 2 ^ 13 :=
    (mul_le_mul_of_nonneg_right hs (by positivity)).trans_eq (by norm_num)
  rw [mul_div_assoc] at htk hub
  have h3 := rnd_step (F := F) (by norm_num) (by positivity) htk
  rw [abs_of_nonneg hs0] at hub h3
  rw [abs_of_nonneg htk0] at hub
  have hq41 : val t / val k ≤ 2 ^ 41 := by linarith only [hub, h40, hτk, h200, hs]
  obtain ⟨hf3, hv3⟩ := fdiv_spec hf2 hk hkpos.ne' (inRange_of_abs_le_2p60 (by
    rw [abs_of_nonneg htk0]; exact hq41.trans (by norm_num)))
  rw [← hv3] at h3
  refine ⟨hf3, hv3 ▸ rnd_nonneg htk0, hv3 ▸ rnd_le (rep_two_pow (by norm_num)) hq41, ?_⟩
  rw [abs_of_nonneg hs0]
  linarith only [h3, hτk, hτ200]

/-- (B, C04) `Angle / f64`, positive divisor: the float total of `a / k` is `Tq a / k` to within the `1e-10` snap plus `16·2⁻⁵³`
    relative — no whole turns appear or disappear -/
theorem divF_float {a : Angle F} {k : F} (ha : a.Inv) (hbl : a.blade ≤ 2 ^ 42) (hk : Fin k)
    (hk0 : 1 / 10 ^ 100 ≤ val k) (hs : Tq a / val k ≤ 2 ^ 40) :
    (a.divF k).Inv ∧ a.divFR k = a.divF k ∧
    |Tq (a.divF k) - Tq a / val k| < val (e10 : F) + (Tq a / val k) * (16 * (1 / 2 ^ 53)) + 1 / 10 ^ 150 := by
  obtain ⟨x, hdef, hf3, hx0, hxub, hxs⟩ := divF_quot ha hbl hk hk0 hs
  have hs0 : 0 ≤ Tq a / val k := div_nonneg (Tq_nonneg ha) (lt_of_lt_of_le (by positivity) hk0).le
  obtain ⟨hinv, htq⟩ := new_radians_total hf3 hx0 hxub
  rw [← hdef] at hinv htq
  refine ⟨hinv, rfl, ?_⟩
  -- the constructor's step (`8ε` relative, snap and `2⁻¹⁰⁷⁰` absolute) after the quotient's (`5ε`, `7e-200`)
  have h := approx_trans_lt (by positivity) hxs
    (show |Tq (a.divF k) - val x| < |val x| * (8 * (1 / 2 ^ 53)) + (val (e10 : F) + 1 / 2 ^ 1070) by
      rw [abs_of_nonneg hx0, mul_one_div]; linarith)
  rw [abs_of_nonneg hs0] at h
  have h1070 : (1:ℝ) / 2 ^ 1070 ≤ 1 / 10 ^ 200 :=
    (tiny_pow (by norm_num)).trans (one_div_pow_le_one_div_pow_of_le (by norm_num) (by norm_num))
  have h200 : 15 * ((1:ℝ) / 10 ^ 200) ≤ 1 / 10 ^ 150 := by norm_num
  have hε := mul_le_mul_of_nonneg_left (show (5:ℝ) * (1 / 2 ^ 53) + 8 * (1 / 2 ^ 53) + 5 * (1 / 2 ^ 53) * (8 * (1 / 2 ^ 53))
    ≤ 16 * (1 / 2 ^ 53) by norm_num) hs0
  have h8 : 7 * ((1:ℝ) / 10 ^ 200) * (8 * (1 / 2 ^ 53)) ≤ 7 * (1 / 10 ^ 200) :=
    mul_le_of_le_one_right (by positivity) (by norm_num)
  linarith only [h, hε, h8, h1070, h200]

end Angle
end GeonumModel
