/-
  GeonumModel.Lemmas.Total — the total angle `blade·q + rem` for an arbitrary value `q` of the quarter turn, and how `+`, `−`, whole
  quarter turns and `negate` act on it.  `q = val qp` is the machine's own total (`Tq`, exact laws), `q = π/2` the true one (`Tpi`,
  `Exact.T`): a carry or borrow bit then costs `|q − val qp|`.  Last, the machine's total of a product, a wedge and `scale_rotate`.
-/
import GeonumModel.Lemmas.AngleStep
import GeonumModel.Lemmas.AngleSub

namespace GeonumModel
open FloatLike FloatSpec
variable {F : Type} [FloatSpec F]
namespace Angle

/-- total angle with the quarter turn valued `q` -/
noncomputable def Tw (q : ℝ) (a : Angle F) : ℝ := (a.blade : ℝ) * q + val a.rem

omit [FloatSpec F] in
theorem blade_cast (a : Angle F) : (a.blade : ℝ) = 4 * ((a.blade / 4 : ℕ) : ℝ) + (a.grade : ℝ) := by
  have h : a.blade = 4 * (a.blade / 4) + a.blade % 4 := (Nat.div_add_mod a.blade 4).symm
  unfold grade; exact_mod_cast h

theorem Tw_grade (q : ℝ) (a : Angle F) : Tw q a = (a.grade : ℝ) * q + val a.rem + ((a.blade / 4 : ℕ) : ℝ) * (4 * q) := by
  unfold Tw; rw [blade_cast]; ring

theorem Tw_of_val_zero (q : ℝ) {z : Angle F} (h : val z.rem = 0) : Tw q z = (z.blade : ℝ) * q := by
  unfold Tw; rw [h, add_zero]

theorem Tw_eq_Tq (q : ℝ) (a : Angle F) : Tw q a = Tq a + (a.blade : ℝ) * (q - val (qp : F)) := by
  unfold Tw Tq; ring

/-- totals add, up to the snap, one rounding, and the carry bit's `|q − val qp|` -/
theorem add_total_w (q : ℝ) {a b : Angle F} (ha : a.Inv) (hb : b.Inv) :
    ∃ δ : ℝ, |δ| < val (e10 : F) + 1 / 10 ^ 15 + |q - val (qp : F)| ∧ Tw q (a.geometricAdd b) = Tw q a + Tw q b + δ := by
  refine ⟨Tw q (a.geometricAdd b) - (Tw q a + Tw q b), ?_, by ring⟩
  obtain ⟨k, hk, hbl⟩ := geometricAdd_carry ha hb
  have hk1 : |(k : ℝ)| ≤ 1 := by rw [Nat.abs_cast]; exact_mod_cast hk
  have e : Tw q (a.geometricAdd b) - (Tw q a + Tw q b) =
      (Tq (a.geometricAdd b) - (Tq a + Tq b)) + k * (q - val (qp : F)) := by
    rw [Tw_eq_Tq, Tw_eq_Tq q a, Tw_eq_Tq q b, hbl]; push_cast; ring
  rw [e]
  refine lt_of_le_of_lt (abs_add_le _ _) (add_lt_add_of_lt_of_le (geometricAdd_total ha hb).1 ?_)
  rw [abs_mul]; exact mul_le_of_le_one_left (abs_nonneg _) hk1

/-- totals subtract modulo `m ≥ 0` whole turns added by the blade wrap (none when `b` is not above `a`), up to the snap, two
    roundings, and `|q − val qp|` for the carry/borrow -/
theorem sub_total_wrap (q : ℝ) {a b : Angle F} (ha : a.Inv) (hb : b.Inv) :
    ∃ (δ : ℝ) (m : ℤ), |δ| < val (e10 : F) + 1 / 10 ^ 15 + |q - val (qp : F)| ∧ 0 ≤ m ∧
      ((b.blade < a.blade ∨ (b.blade = a.blade ∧ val b.rem ≤ val a.rem)) → m = 0) ∧
      Tw q (a.geometricSub b) = Tw q a - Tw q b + δ + (m : ℝ) * (4 * q) := by
  obtain ⟨_, s, c, hs, hc, hbl, htot, _, hneg⟩ := geometricSub_spec ha hb
  generalize hD : (a.blade : ℤ) - (b.blade : ℤ) + s = D at hbl
  obtain ⟨m, hm0, hm, hmz⟩ := wrap4_eq D
  have hblr : ((a.geometricSub b).blade : ℝ) = (a.blade : ℝ) - (b.blade : ℝ) + (s : ℝ) + 4 * (m : ℝ) + (c : ℝ) := by
    have : ((a.geometricSub b).blade : ℤ) = (a.blade : ℤ) - (b.blade : ℤ) + s + 4 * m + c := by
      rw [hbl, hD]; push_cast; rw [hm]
    exact_mod_cast this
  have hcs : |((c : ℝ) + (s : ℝ))| ≤ 1 := by
    rcases hs with rfl | rfl <;> rcases hc with rfl | rfl <;> norm_num
  refine ⟨(val (a.geometricSub b).rem + ((c : ℝ) + (s : ℝ)) * val (qp : F) - (val a.rem - val b.rem))
    + ((c : ℝ) + (s : ℝ)) * (q - val (qp : F)), m, ?_, hm0, fun hle => hmz ?_, by unfold Tw; rw [hblr]; ring⟩
  · refine lt_of_le_of_lt (abs_add_le _ _) (add_lt_add_of_lt_of_le htot ?_)
    rw [abs_mul]; exact mul_le_of_le_one_left (abs_nonneg _) hcs
  · -- no borrow below equal blades, so the blade difference is not negative
    rcases hle with h | ⟨h, hr⟩
    · rcases hs with rfl | rfl <;> omega
    · rcases hs with rfl | rfl
      · omega
      · exact absurd (hneg rfl) (not_lt.mpr hr)

theorem sub_total_w (q : ℝ) {a b : Angle F} (ha : a.Inv) (hb : b.Inv) :
    ∃ (δ : ℝ) (m : ℤ), |δ| < val (e10 : F) + 1 / 10 ^ 15 + |q - val (qp : F)| ∧
      Tw q (a.geometricSub b) = Tw q a - Tw q b + δ + (m : ℝ) * (4 * q) := by
  obtain ⟨δ, m, hδ, _, _, h⟩ := sub_total_wrap q ha hb
  exact ⟨δ, m, hδ, h⟩

theorem Tw_add_whole (q : ℝ) {x z : Angle F} (hx : x.Inv) (hzf : Fin z.rem) (hz0 : val z.rem = 0) :
    Tw q (x.geometricAdd z) = Tw q x + (z.blade : ℝ) * q := by
  obtain ⟨hbl, _, hv⟩ := add_whole hx hzf hz0
  unfold Tw; rw [hbl, hv]; push_cast; ring

theorem Tw_negate (q : ℝ) {x : Angle F} (hx : x.Inv) : Tw q x.negate = Tw q x + 2 * q := by
  obtain ⟨hb, _, hv⟩ := negate_spec hx
  unfold Tw; rw [hb, hv]; push_cast; ring

/-! ### the two values of `q` in use: the machine's quarter turn (`Tq`) and the true one (`Tpi`) -/

/-- total angle in true radians -/
noncomputable def Tpi (a : Angle F) : ℝ := (a.blade : ℝ) * (Real.pi / 2) + val a.rem

theorem Tq_eq_Tw (a : Angle F) : Tq a = Tw (val (qp : F)) a := rfl
theorem Tpi_eq_Tw (a : Angle F) : Tpi a = Tw (Real.pi / 2) a := rfl

theorem Tpi_negate {x : Angle F} (hx : x.Inv) : Tpi x.negate = Tpi x + Real.pi := by
  rw [Tpi_eq_Tw, Tw_negate _ hx, Tpi_eq_Tw]; ring

/-- the library's `==` on canonical angles: true totals within the test's `1e-15` -/
theorem Tpi_of_beq {a b : Angle F} (ha : a.Inv) (hb : b.Inv) (h : a.beq b = true) : |Tpi b - Tpi a| ≤ val (e15 : F) := by
  obtain ⟨hbl, hrem⟩ := beq_rems ha hb h
  rw [show Tpi b - Tpi a = val b.rem - val a.rem by unfold Tpi; rw [hbl]; ring, abs_sub_comm]
  exact hrem.le

theorem qp_close : |val (qp : F) - Real.pi / 2| ≤ 1 / 10 ^ 16 := by
  rw [val_qp, ← sub_div, abs_div, abs_two, abs_sub_comm, abs_of_nonneg (sub_nonneg.mpr piV_le)]
  exact (div_le_div_of_nonneg_right (sub_le_comm.mp piV_ge) two_pos.le).trans_eq (by norm_num)

theorem add_total_q {a b : Angle F} (ha : a.Inv) (hb : b.Inv) :
    ∃ δ : ℝ, |δ| < val (e10 : F) + 1 / 10 ^ 15 ∧ Tq (a.geometricAdd b) = Tq a + Tq b + δ := by
  obtain ⟨δ, hδ, h⟩ := add_total_w (val (qp : F)) ha hb
  exact ⟨δ, by rwa [sub_self, abs_zero, add_zero] at hδ, h⟩

theorem sub_total_q {a b : Angle F} (ha : a.Inv) (hb : b.Inv) :
    ∃ (δ : ℝ) (m : ℤ), |δ| < val (e10 : F) + 1 / 10 ^ 15 ∧
      Tq (a.geometricSub b) = Tq a - Tq b + δ + (m : ℝ) * (4 * val (qp : F)) := by
  obtain ⟨δ, m, hδ, h⟩ := sub_total_w (val (qp : F)) ha hb
  exact ⟨δ, m, by rwa [sub_self, abs_zero, add_zero] at hδ, h⟩

theorem Tq_add_whole {x z : Angle F} (hx : x.Inv) (hzf : Fin z.rem) (hz0 : val z.rem = 0) :
    Tq (x.geometricAdd z) = Tq x + (z.blade : ℝ) * val (qp : F) :=
  Tw_add_whole _ hx hzf hz0

theorem Tq_baseAngle (a : Angle F) :
    Tq a.baseAngle = Tq a - ((a.blade / 4 : ℕ) : ℝ) * (4 * val (qp : F)) := by
  rw [Tq_eq_Tw a, Tw_grade]; unfold Tq baseAngle; ring

/-- with the true π the carry/borrow bit costs `|π/2 − val qp| ≤ 1e-16`: hence `2e-15` -/
theorem sub_true_total {a b : Angle F} (ha : a.Inv) (hb : b.Inv) :
    ∃ (δ : ℝ) (m : ℤ), |δ| < val (e10 : F) + 2 / 10 ^ 15 ∧
      Tpi (b.geometricSub a) = Tpi b - Tpi a + δ + (m : ℝ) * (2 * Real.pi) := by
  obtain ⟨δ, m, hδ, h⟩ := sub_total_w (Real.pi / 2) hb ha
  have hq := qp_close (F := F); rw [abs_sub_comm] at hq
  refine ⟨δ, m, hδ.trans_le ?_, by rw [Tpi_eq_Tw, h, Tpi_eq_Tw, Tpi_eq_Tw]; ring⟩
  rw [add_assoc]
  exact add_le_add le_rfl ((add_le_add le_rfl hq).trans (by norm_num))

end Angle

/-! ### the machine's total of the angle of a product, a wedge, `scale_rotate` -/
namespace Geonum
open Angle

/-- the angle of a product in rounded arithmetic: totals add, up to one snap and one rounding -/
theorem mul_total_float {a b : Geonum F} (ha : a.angle.Inv) (hb : b.angle.Inv) :
    (a.mul b).mag = fmul a.mag b.mag ∧
    ∃ δ : ℝ, |δ| < val (e10 : F) + 1 / 10 ^ 15 ∧ Tq (a.mul b).angle = Tq a.angle + Tq b.angle + δ :=
  ⟨rfl, add_total_q ha hb⟩

/-- **the angle of the wedge in rounded arithmetic**: `T a + T b + π_f/2`, plus a half turn exactly when the computed sine tests
    negative, up to one snap and one rounding (the two whole-blade additions are exact) -/
theorem wedge_total_float {a b : Geonum F} (ha : a.angle.Inv) (hb : b.angle.Inv) :
    ∃ δ : ℝ, |δ| < val (e10 : F) + 1 / 10 ^ 15 ∧
      Tq (a.wedge b).angle = Tq a.angle + Tq b.angle + δ + val (qp : F)
        + (if flt (FloatLike.sin (b.angle.sub a.angle).gradeAngle) (zero : F) then 2 * val (qp : F) else 0) := by
  obtain ⟨δ, hδ, hab⟩ := add_total_q ha hb
  have habinv := geometricAdd_inv ha hb
  have h1 : Tq ((a.angle.geometricAdd b.angle).geometricAdd (Angle.new (one : F) two))
      = Tq a.angle + Tq b.angle + δ + val (qp : F) := by
    rw [new_one_two, Tq_add_whole habinv fin_zero val_zero, hab]; push_cast; ring
  have hq1inv : ((a.angle.geometricAdd b.angle).geometricAdd (Angle.new (one : F) two)).Inv := by
    rw [new_one_two]; exact add_whole_inv habinv fin_zero val_zero
  refine ⟨δ, hδ, ?_⟩
  unfold Geonum.wedge
  simp only [Angle.add, addVV]
  split
  · obtain ⟨hb2, hf2, hv2⟩ := (new_one_one (F := F)).whole
    rw [Tq_add_whole hq1inv hf2 hv2, h1, hb2]; push_cast; ring
  · rw [h1]; ring

set_option linter.unusedVariables false

/-- **`scale_rotate` in rounded arithmetic**: the magnitude is the one rounded product `|g|·|f|`, and the float total of the angle is
    `T g + T r`, plus exactly a half turn `2·(π_f/2)` when the factor tests negative, up to one snap and one rounding -/
theorem scaleRotate_float {g : Geonum F} {f : F} {r : Angle F} (hg : g.angle.Inv) (hr : r.Inv) (hm : Fin g.mag) (hf : Fin f) :
    (flt f zero = true →
      (g.scaleRotate f r).mag = fmul g.mag (fabs f) ∧
      ∃ δ : ℝ, |δ| < val (e10 : F) + 1 / 10 ^ 15 ∧
        Tq (g.scaleRotate f r).angle = Tq g.angle + 2 * val (qp : F) + Tq r + δ) ∧
    (flt f zero = false →
      (g.scaleRotate f r).mag = fmul g.mag f ∧
      ∃ δ : ℝ, |δ| < val (e10 : F) + 1 / 10 ^ 15 ∧ Tq (g.scaleRotate f r).angle = Tq g.angle + Tq r + δ) := by
  constructor
  · intro h
    have hdef : g.scaleRotate f r = ⟨fmul g.mag (fabs f), g.angle.negate.geometricAdd r⟩ := by
      simp [Geonum.scaleRotate, h, Geonum.newWithAngle, Angle.add, addVV]
    obtain ⟨δ, hδ, hT⟩ := add_total_q (negate_inv hg) hr
    have hTn : Tq g.angle.negate = Tq g.angle + 2 * val (qp : F) := Tw_negate _ hg
    rw [hdef]
    exact ⟨rfl, δ, hδ, by show Tq (g.angle.negate.geometricAdd r) = _; rw [hT, hTn]⟩
  · intro h
    have hdef : g.scaleRotate f r = ⟨fmul g.mag f, g.angle.geometricAdd r⟩ := by
      simp [Geonum.scaleRotate, h, Geonum.newWithAngle, Angle.add, addVV]
    obtain ⟨δ, hδ, hT⟩ := add_total_q hg hr
    rw [hdef]
    exact ⟨rfl, δ, hδ, hT⟩

end Geonum
end GeonumModel
