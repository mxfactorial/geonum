/-
  GeonumModel.Lemmas.FloatTrig — measurements that are one libm call on a grade angle, against the total measured with the TRUE π:
  a magnitude times a factor of size at most one (`mul_unit_float`, `mul_mul_unit_snap`), the libm cosine and sine of a float grade angle
  (`trig_float`) and of a difference of angles (`cos_sub_float`), and with them the dot value and the projections.
-/
import GeonumModel.Lemmas.GeonumMag
import GeonumModel.Lemmas.GradeAngle
import GeonumModel.Lemmas.RndErr
import GeonumModel.Lemmas.Total

namespace GeonumModel
open FloatLike FloatSpec

theorem cos_mul_self_add_sin_mul_self (t : ℝ) : Real.cos t * Real.cos t + Real.sin t * Real.sin t = 1 := by
  rw [← sq, ← sq]; exact Real.cos_sq_add_sin_sq t

theorem polar_mul_self (m t : ℝ) : m * Real.cos t * (m * Real.cos t) + m * Real.sin t * (m * Real.sin t) = m * m := by
  linear_combination m * m * cos_mul_self_add_sin_mul_self t

/-- the component of `(m·cos s, m·sin s)` along the direction `t` -/
theorem polar_along (m s t : ℝ) : m * Real.cos s * Real.cos t + m * Real.sin s * Real.sin t = m * Real.cos (t - s) := by
  rw [Real.cos_sub]; ring

theorem opposite_signs {x u v t : ℝ} (hu : |u - x| < t) (hv : |v + x| < t) (hx : t < |x|) :
    (u < 0 ∧ ¬ v < 0) ∨ (¬ u < 0 ∧ v < 0) := by
  rw [abs_lt] at hu hv
  rcases le_or_gt 0 x with h | h
  · rw [abs_of_nonneg h] at hx; exact Or.inr ⟨not_lt.mpr (by linarith), by linarith⟩
  · rw [abs_of_neg h] at hx; exact Or.inl ⟨by linarith, not_lt.mpr (by linarith)⟩

theorem abs_sq_sub_sq_le {D X M η : ℝ} (hη : 0 ≤ η) (hX : |X| ≤ M) (hD : |D - X| ≤ η) : |D ^ 2 - X ^ 2| ≤ η * (2 * M + η) := by
  have h : |D + X| ≤ 2 * M + η := by
    have := abs_add_le (D - X) (2 * X); rw [abs_mul, abs_two] at this
    rw [show D + X = (D - X) + 2 * X by ring]; linarith only [this, hX, hD]
  rw [sq_sub_sq, abs_mul, mul_comm]
  exact mul_le_mul hD h (abs_nonneg _) hη

theorem lagrange_err_real {D W M c s η : ℝ} (hM : 0 ≤ M) (hη : 0 ≤ η) (hcs : c ^ 2 + s ^ 2 = 1) (hc : |c| ≤ 1) (hs : |s| ≤ 1)
    (hD : |D - M * c| ≤ η) (hW : |W - M * s| ≤ η) : |D ^ 2 + W ^ 2 - M ^ 2| ≤ 2 * η * (2 * M + η) := by
  rw [show D ^ 2 + W ^ 2 - M ^ 2 = (D ^ 2 - (M * c) ^ 2) + (W ^ 2 - (M * s) ^ 2) by linear_combination M ^ 2 * hcs]
  linarith only [abs_add_le (D ^ 2 - (M * c) ^ 2) (W ^ 2 - (M * s) ^ 2), abs_sq_sub_sq_le hη (abs_mul_unit_le hM hc) hD,
    abs_sq_sub_sq_le hη (abs_mul_unit_le hM hs) hW]

/-- a value `V ≈ P·C` computed from a rounded `P ≈ m` instead of `m` -/
theorem mul_mul_unit_real {m P V C η u τ : ℝ} (hm : 0 ≤ m) (hu : 0 ≤ u) (hτ : 0 ≤ τ) (hη0 : 0 ≤ η) (hη1 : η ≤ 1) (hC : |C| ≤ 1)
    (hP : |P - m| ≤ m * u + τ) (hV : |V - P * C| ≤ P * η + τ) : |V - m * C| ≤ m * (η + 2 * u) + 3 * τ := by
  have h1 : |P * C - m * C| ≤ m * u + τ := by
    rw [← sub_mul, abs_mul]; exact le_trans (mul_le_of_le_one_right (abs_nonneg _) hC) hP
  have h2 := mul_le_mul_of_nonneg_right (show P ≤ m + (m * u + τ) by linarith only [(abs_le.mp hP).2]) hη0
  have h3 : (m * u + τ) * η ≤ (m * u + τ) * 1 := mul_le_mul_of_nonneg_left hη1 (by positivity)
  linarith only [abs_sub_le_add hV h1, h2, h3]

variable {F : Type} [FloatSpec F]

theorem mul_unit_float {m c : F} {C ε : ℝ} (hm : Fin m) (hm0 : 0 ≤ val m) (hc : Fin c) (hc1 : |val c| ≤ 1)
    (hclose : |val c - C| ≤ ε) :
    Fin (fmul m c) ∧ |val (fmul m c) - val m * C| ≤ val m * (ε + 1 / 2 ^ 53) + 1 / 10 ^ 30 := by
  have hprod := abs_mul_unit_le hm0 hc1
  obtain ⟨hf, hv⟩ := fmul_spec hm hc (inRange_mono (by rw [abs_of_nonneg hm0]; exact hprod) (inRange_val hm))
  refine ⟨hf, ?_⟩
  rw [hv]
  linarith only [abs_sub_le_add (rnd_close_of_abs_le (F := F) hprod) (abs_mul_sub_le hm0 hclose)]

/-- `mul_unit_float` at the tolerance of `cos_sub_float`: `8e-15 + 2⁻⁵³ ≤ 1e-14` -/
theorem mul_unit_snap {m c : F} {C : ℝ} (hm : Fin m) (hm0 : 0 ≤ val m) (hc : Fin c) (hc1 : |val c| ≤ 1)
    (hclose : |val c - C| ≤ val (e10 : F) + 8 / 10 ^ 15) :
    Fin (fmul m c) ∧ |val (fmul m c) - val m * C| ≤ val m * (val (e10 : F) + 1 / 10 ^ 14) + 1 / 10 ^ 30 := by
  obtain ⟨hf, h⟩ := mul_unit_float hm hm0 hc hc1 hclose
  refine ⟨hf, le_trans h (add_le_add_left (mul_le_mul_of_nonneg_left ?_ hm0) _)⟩
  rw [add_assoc]; exact add_le_add_right (by norm_num) _

theorem fabs_unit_close {c : F} {C ε : ℝ} (hc : Fin c) (hc1 : |val c| ≤ 1) (h : |val c - C| ≤ ε) :
    Fin (fabs c) ∧ |val (fabs c)| ≤ 1 ∧ abs (val (fabs c) - abs C) ≤ ε := by
  obtain ⟨hf, hv⟩ := fabs_spec hc
  rw [hv, abs_abs]
  exact ⟨hf, hc1, le_trans (abs_abs_sub_abs_le_abs_sub _ _) h⟩

namespace Angle

theorem gradeAngle_true {x : Angle F} (hx : x.Inv) :
    |val x.gradeAngle - (Tpi x - ((x.blade / 4 : ℕ) : ℝ) * (2 * Real.pi))| ≤ 5 / 10 ^ 15 := by
  obtain ⟨_, hga, _, _⟩ := gradeAngle_spec hx
  have hg3 : (x.grade : ℝ) ≤ 3 := by exact_mod_cast (show x.grade ≤ 3 by unfold grade; omega)
  have h2 : |(x.grade : ℝ) * (val (qp : F) - Real.pi / 2)| ≤ 3 * (1 / 10 ^ 16) := by
    rw [abs_mul, Nat.abs_cast]; exact mul_le_mul hg3 qp_close (abs_nonneg _) (by norm_num)
  rw [show Tpi x - ((x.blade / 4 : ℕ) : ℝ) * (2 * Real.pi)
      = (x.grade : ℝ) * val (qp : F) + val x.rem - (x.grade : ℝ) * (val (qp : F) - Real.pi / 2) by rw [Tpi_eq_Tw, Tw_grade]; ring]
  refine (abs_sub_le_add hga ?_).trans (by norm_num : (4:ℝ) / 10 ^ 15 + 3 * (1 / 10 ^ 16) ≤ 5 / 10 ^ 15)
  rwa [sub_sub_cancel]

theorem trig_gradeAngle_true {x : Angle F} (hx : x.Inv) :
    |Real.cos (val x.gradeAngle) - Real.cos (Tpi x)| ≤ 5 / 10 ^ 15 ∧
    |Real.sin (val x.gradeAngle) - Real.sin (Tpi x)| ≤ 5 / 10 ^ 15 := by
  have h := gradeAngle_true hx
  rw [← Real.cos_sub_nat_mul_two_pi (Tpi x) (x.blade / 4), ← Real.sin_sub_nat_mul_two_pi (Tpi x) (x.blade / 4)]
  exact ⟨le_trans (Real.abs_cos_sub_cos_le _ _) h, le_trans (Real.abs_sin_sub_sin_le _ _) h⟩

/-- the `6e-15`: rounding of `grade_angle`, the `π_f ≠ π` offset of up to three quarter turns, the libm error -/
theorem trig_float {x : Angle F} (hx : x.Inv) :
    (Fin (FloatLike.cos x.gradeAngle) ∧ |val (FloatLike.cos x.gradeAngle)| ≤ 1 ∧
      |val (FloatLike.cos x.gradeAngle) - Real.cos (Tpi x)| ≤ 6 / 10 ^ 15) ∧
    (Fin (FloatLike.sin x.gradeAngle) ∧ |val (FloatLike.sin x.gradeAngle)| ≤ 1 ∧
      |val (FloatLike.sin x.gradeAngle) - Real.sin (Tpi x)| ≤ 6 / 10 ^ 15) := by
  obtain ⟨hfc, hc1, hce⟩ := cos_spec (gradeAngle_fin hx)
  obtain ⟨hfs, hs1, hse⟩ := sin_spec (gradeAngle_fin hx)
  obtain ⟨hc, hs⟩ := trig_gradeAngle_true hx
  have hnum : errTrig F + 5 / 10 ^ 15 ≤ 6 / 10 ^ 15 := by linarith only [errTrig_le (F := F)]
  exact ⟨⟨hfc, hc1, (abs_sub_le_add hce hc).trans hnum⟩, ⟨hfs, hs1, (abs_sub_le_add hse hs).trans hnum⟩⟩

/-- the `1e-10 + 8e-15`: the snap tolerance of the subtraction, its rounding, and `trig_float` -/
theorem cos_sub_float {a b : Angle F} (ha : a.Inv) (hb : b.Inv) :
    |val (FloatLike.cos (b.geometricSub a).gradeAngle) - Real.cos (Tpi b - Tpi a)| ≤ val (e10 : F) + 8 / 10 ^ 15 ∧
    |val (FloatLike.sin (b.geometricSub a).gradeAngle) - Real.sin (Tpi b - Tpi a)| ≤ val (e10 : F) + 8 / 10 ^ 15 := by
  obtain ⟨⟨_, _, hc⟩, ⟨_, _, hs⟩⟩ := trig_float (geometricSub_inv hb ha)
  obtain ⟨δ, m, hδ, hT⟩ := sub_true_total ha hb
  rw [hT, Real.cos_add_int_mul_two_pi] at hc
  rw [hT, Real.sin_add_int_mul_two_pi] at hs
  have hc4 := Real.abs_cos_sub_cos_le (Tpi b - Tpi a + δ) (Tpi b - Tpi a)
  have hs4 := Real.abs_sin_sub_sin_le (Tpi b - Tpi a + δ) (Tpi b - Tpi a)
  rw [add_sub_cancel_left] at hc4 hs4
  have hnum : 6 / 10 ^ 15 + |δ| ≤ val (e10 : F) + 8 / 10 ^ 15 := by linarith only [hδ]
  exact ⟨(abs_sub_le_add hc hc4).trans hnum, (abs_sub_le_add hs hs4).trans hnum⟩

theorem project_float {a onto : Angle F} (ha : a.Inv) (ho : onto.Inv) :
    Fin (a.project onto) ∧ |val (a.project onto)| ≤ 1 ∧
    |val (a.project onto) - Real.cos (Tpi onto - Tpi a)| ≤ val (e10 : F) + 8 / 10 ^ 15 := by
  obtain ⟨hfc, hc1, _⟩ := cos_spec (gradeAngle_fin (geometricSub_inv ho ha))
  exact ⟨hfc, hc1, (cos_sub_float ha ho).1⟩

end Angle

namespace Geonum
open Angle

/-- `(|a|·|b|)·c` for a unit-size factor `c` (a libm cosine or sine, or its absolute value) at the tolerance of `cos_sub_float`: the shape
    of the dot and wedge values -/
theorem mul_mul_unit_snap {a b : Geonum F} {c : F} {C : ℝ} (hma : a.MagDom) (hmb : b.MagDom) (hc : Fin c) (hc1 : |val c| ≤ 1)
    (hC : |C| ≤ 1) (hclose : |val c - C| ≤ val (e10 : F) + 8 / 10 ^ 15) :
    |val (fmul (fmul a.mag b.mag) c) - val a.mag * val b.mag * C|
      ≤ val a.mag * val b.mag * (val (e10 : F) + 1 / 10 ^ 14) + 1 / 10 ^ 29 := by
  obtain ⟨haf, ha0, ha1⟩ := hma
  obtain ⟨hbf, hb0, hb1⟩ := hmb
  obtain ⟨hfp, hpv, hp0, _⟩ := mul_dom_val haf hbf ha0 hb0 ha1 hb1
  have hm0 : 0 ≤ val a.mag * val b.mag := mul_nonneg ha0 hb0
  have hP := rnd_close (F := F) (val a.mag * val b.mag)
  rw [← hpv, abs_of_nonneg hm0, div_eq_mul_one_div] at hP
  have he0 := val_e10_pos (F := F)
  have h := mul_mul_unit_real hm0 (by positivity) (by positivity) (by positivity)
    (le_trans (add_le_add_left (add_le_add_left val_e10_small _) _) (by norm_num)) hC hP (mul_unit_float hfp hp0 hc hc1 hclose).2
  refine le_trans h (add_le_add (mul_le_mul_of_nonneg_left ?_ hm0) (by norm_num))
  rw [add_assoc, add_assoc]; exact add_le_add_right (by norm_num) _

/-- (B, C09) the dot value -/
theorem dot_value_float {a b : Geonum F} (ha : a.angle.Inv) (hb : b.angle.Inv) (hma : a.MagDom) (hmb : b.MagDom) :
    |val (fmul (fmul a.mag b.mag) (FloatLike.cos (b.angle.geometricSub a.angle).gradeAngle))
        - val a.mag * val b.mag * Real.cos (Angle.Tpi b.angle - Angle.Tpi a.angle)|
      ≤ val a.mag * val b.mag * (val (e10 : F) + 1 / 10 ^ 14) + 1 / 10 ^ 29 := by
  obtain ⟨hfc, hc1, _⟩ := cos_spec (gradeAngle_fin (geometricSub_inv hb ha))
  exact mul_mul_unit_snap hma hmb hfc hc1 (Real.abs_cos_le_one _) (cos_sub_float ha hb).1

/-- (B, C11) `project_to_dimension(k)` for every `k < 2^53`: no loss of accuracy with the size of `k`, because the difference is taken
    in exact blade arithmetic before any float is formed -/
theorem projectToDimension_float {g : Geonum F} (hg : g.angle.Inv) (hm : Fin g.mag) (hm0 : 0 ≤ val g.mag)
    (k : ℕ) (hk : k < 2 ^ 53) :
    |val (g.projectToDimension k) - val g.mag * Real.cos ((k : ℝ) * (Real.pi / 2) - Angle.Tpi g.angle)|
      ≤ val g.mag * (val (e10 : F) + 1 / 10 ^ 14) + 1 / 10 ^ 30 := by
  unfold projectToDimension
  rw [Angle.newWithBlade_zero k hk]
  have hax : (⟨zero, k⟩ : Angle F).Inv := Angle.inv_zero k
  obtain ⟨hfp, hp1, hclose⟩ := Angle.project_float hg hax
  have hT : Angle.Tpi (⟨zero, k⟩ : Angle F) = (k : ℝ) * (Real.pi / 2) := Angle.Tw_of_val_zero _ val_zero
  rw [hT] at hclose
  exact (mul_unit_snap hm hm0 hfp hp1 hclose).2

/-- (B, C11) the length of the projection of `a` onto `b`, in the branch `|b| ≥ 1e-10` -/
theorem project_mag_float {a b : Geonum F} (ha : a.angle.Inv) (hb : b.angle.Inv) (hm : Fin a.mag) (hm0 : 0 ≤ val a.mag)
    (hbm : flt (fabs b.mag) e10 = false) :
    |val (a.project b).mag - val a.mag * abs (Real.cos (Angle.Tpi b.angle - Angle.Tpi a.angle))|
      ≤ val a.mag * (val (e10 : F) + 1 / 10 ^ 14) + 1 / 10 ^ 30 := by
  have hmag : (a.project b).mag = fmul a.mag (fabs (a.angle.project b.angle)) := by
    unfold project; rw [if_neg (by rw [hbm]; simp)]; rfl
  obtain ⟨hfp, hp1, hclose⟩ := Angle.project_float ha hb
  obtain ⟨hfa, hc1, hcl⟩ := fabs_unit_close hfp hp1 hclose
  rw [hmag]
  exact (mul_unit_snap hm hm0 hfa hc1 hcl).2

end Geonum
end GeonumModel
