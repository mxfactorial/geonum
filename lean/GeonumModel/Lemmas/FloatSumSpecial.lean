/-
  GeonumModel.Lemmas.FloatSumSpecial — the two special branches of `+` (identical angles; a half turn apart) in rounded arithmetic, and
  with the general branch of `FloatSumCart` the Cartesian sum and difference whatever branch is taken (`sum_cartF_every_branch`).
-/
import GeonumModel.Lemmas.FloatSumCart

namespace GeonumModel
open FloatLike FloatSpec
variable {F : Type} [FloatSpec F]

/-- a result of signed length `M ≈ N` on the ray with direction component `c`, where `N·c = A·c + B·c₀` and the second operand's
    component `c'` is within `d` of `c₀` -/
theorem ray_sum_real {M N A B c c₀ c' E d : ℝ} (hB : 0 ≤ B) (hN : N * c = A * c + B * c₀) (hM : |M - N| ≤ E)
    (hc : |c| ≤ 1) (hcc : |c' - c₀| ≤ d) : |M * c - (A * c + B * c')| ≤ E + B * d := by
  have h1 : |(M - N) * c| ≤ E := by
    rw [abs_mul]; exact (mul_le_of_le_one_right (abs_nonneg _) hc).trans hM
  have h2 : |B * (c' - c₀)| ≤ B * d := by
    rw [abs_mul, abs_of_nonneg hB]; exact mul_le_mul_of_nonneg_left hcc hB
  rw [show M * c - (A * c + B * c') = (M - N) * c - B * (c' - c₀) by linear_combination hN]
  exact (abs_sub _ _).trans (add_le_add h1 h2)

theorem same_real {M A B c c' ε τ d : ℝ} (hA : 0 ≤ A) (hB : 0 ≤ B) (hM : |M - (A + B)| ≤ (A + B) * ε + τ)
    (hc : |c| ≤ 1) (hcc : |c' - c| ≤ d) :
    |M * c - (A * c + B * c')| ≤ (A + B) * (ε + d) + τ := by
  linarith only [ray_sum_real hB (add_mul A B c) hM hc hcc, mul_nonneg hA ((abs_nonneg _).trans hcc)]

theorem opp_real {M A B c c' E ε d e : ℝ} (hA : 0 ≤ A) (hB : 0 ≤ B) (hM : |M - (A - B)| ≤ E) (hE : E ≤ (A + B) * ε + e)
    (hc : |c| ≤ 1) (hcc : |c' + c| ≤ d) :
    |M * c - (A * c + B * c')| ≤ (A + B) * (ε + d) + e := by
  have h := ray_sum_real (c₀ := -c) hB (by ring) hM hc (show |c' - -c| ≤ d by rwa [sub_neg_eq_add])
  linarith only [h, hE, mul_nonneg hA ((abs_nonneg _).trans hcc)]

namespace Geonum
open Angle

/-- **identical angles, rounded arithmetic**: the result keeps the receiver's angle and its Cartesian components are the component-wise
    sums within `(|a|+|b|)·(2⁻⁵³ + 1e-15) + 2⁻¹⁰⁷⁵` (one rounding of the magnitude sum; the equality test's own tolerance on the remainders) -/
theorem sum_cartesian_same_float {a b : Geonum F} (ha : a.angle.Inv) (hb : b.angle.Inv) (hma : a.MagDom) (hmb : b.MagDom)
    (h : sameAngle a b = true) :
    |val (a.add b).mag * Real.cos (Tpi (a.add b).angle) - (val a.mag * Real.cos (Tpi a.angle) + val b.mag * Real.cos (Tpi b.angle))|
      ≤ (val a.mag + val b.mag) * (1 / 2 ^ 53 + val (e15 : F)) + 1 / 2 ^ 1075 ∧
    |val (a.add b).mag * Real.sin (Tpi (a.add b).angle) - (val a.mag * Real.sin (Tpi a.angle) + val b.mag * Real.sin (Tpi b.angle))|
      ≤ (val a.mag + val b.mag) * (1 / 2 ^ 53 + val (e15 : F)) + 1 / 2 ^ 1075 := by
  rw [add_same a b h]
  simp only
  obtain ⟨_, hv, _⟩ := fadd_bd hma.1 hmb.1 hma.abs_le hmb.abs_le (by norm_num)
  have hM := rnd_rel (F := F) (val a.mag + val b.mag)
  rw [← hv, abs_of_nonneg (add_nonneg hma.2.1 hmb.2.1)] at hM
  have hTd := Tpi_of_beq ha hb h
  exact ⟨same_real hma.2.1 hmb.2.1 hM (Real.abs_cos_le_one _) ((Real.abs_cos_sub_cos_le _ _).trans hTd),
    same_real hma.2.1 hmb.2.1 hM (Real.abs_sin_le_one _) ((Real.abs_sin_sub_sin_le _ _).trans hTd)⟩

theorem opposite_directions {a b : Geonum F} (ha : a.angle.Inv) (hb : b.angle.Inv) (h2 : oppositeAngle a b = true) :
    ∃ k : ℤ, |Tpi b.angle - (Tpi a.angle + Real.pi) - (k : ℝ) * (2 * Real.pi)| ≤ val (e15 : F) := by
  unfold oppositeAngle at h2
  rw [Bool.or_eq_true] at h2
  rcases h2 with h | h
  · have hd := Tpi_of_beq (negate_inv ha) hb h
    rw [Tpi_negate ha] at hd
    exact ⟨0, by rwa [Int.cast_zero, zero_mul, sub_zero]⟩
  · have hd := Tpi_of_beq (negate_inv hb) ha h
    rw [Tpi_negate hb, abs_sub_comm] at hd
    exact ⟨-1, by rwa [show Tpi b.angle - (Tpi a.angle + Real.pi) - ((-1 : ℤ) : ℝ) * (2 * Real.pi)
      = Tpi b.angle + Real.pi - Tpi a.angle by push_cast; ring]⟩

/-- **a half turn apart, rounded arithmetic**: in all three sub-cases (cancellation below `1e-10`, first operand larger, second operand
    larger) the Cartesian components of the result are the component-wise sums within `(|a|+|b|)·(2⁻⁵³ + 1e-15) + 2·1e-10`
    (the cancellation threshold is the dominant term: a difference below it is replaced by zero) -/
theorem sum_cartesian_opposite_float {a b : Geonum F} (ha : a.angle.Inv) (hb : b.angle.Inv) (hma : a.MagDom) (hmb : b.MagDom)
    (h1 : sameAngle a b = false) (h2 : oppositeAngle a b = true) :
    |val (a.add b).mag * Real.cos (Tpi (a.add b).angle) - (val a.mag * Real.cos (Tpi a.angle) + val b.mag * Real.cos (Tpi b.angle))|
      ≤ (val a.mag + val b.mag) * (1 / 2 ^ 53 + val (e15 : F)) + 2 * val (e10 : F) ∧
    |val (a.add b).mag * Real.sin (Tpi (a.add b).angle) - (val a.mag * Real.sin (Tpi a.angle) + val b.mag * Real.sin (Tpi b.angle))|
      ≤ (val a.mag + val b.mag) * (1 / 2 ^ 53 + val (e15 : F)) + 2 * val (e10 : F) := by
  obtain ⟨k, hk⟩ := opposite_directions ha hb h2
  obtain ⟨hcc', hss'⟩ := cos_sin_near_mod hk
  rw [Real.cos_add_pi, sub_neg_eq_add] at hcc'
  rw [Real.sin_add_pi, sub_neg_eq_add] at hss'
  have ha0 := hma.2.1; have hb0 := hmb.2.1
  obtain ⟨hfs, hvs, _⟩ := fsub_bd hma.1 hmb.1 hma.abs_le hmb.abs_le (by norm_num)
  have hM := rnd_rel (F := F) (val a.mag - val b.mag)
  rw [← hvs] at hM
  -- in every sub-case the signed length is `A − B` to within `(A+B)·2⁻⁵³ + 2·1e-10`
  have he10 := val_e10_pos (F := F)
  have hτ : (1:ℝ) / 2 ^ 1075 ≤ val (e10 : F) := (tiny_1075.trans (by norm_num)).trans (val_e10_bounds (F := F)).1
  have hABε := mul_le_mul_of_nonneg_right (show |val a.mag - val b.mag| ≤ val a.mag + val b.mag from
    (abs_sub _ _).trans_eq (by rw [abs_of_nonneg ha0, abs_of_nonneg hb0])) (by positivity : (0:ℝ) ≤ 1 / 2 ^ 53)
  have hE : |val a.mag - val b.mag| * (1 / 2 ^ 53) + 1 / 2 ^ 1075 ≤ (val a.mag + val b.mag) * (1 / 2 ^ 53) + 2 * val (e10 : F) := by
    linarith only [hABε, hτ, he10]
  refine add_cases a b (fun h => by rw [h] at h1; cases h1) (fun _ _ h3 => ?_) (fun _ _ _ _ => ?_) (fun _ _ _ _ => ?_)
    (fun _ h => by rw [h] at h2; cases h2)
  · -- cancellation: the result is zero, and `|A − B|` is below the threshold up to the rounding of the difference
    have hlt := (flt_spec (fabs_spec hfs).1 (fin_e10 (F := F))).mp h3
    rw [(fabs_spec hfs).2] at hlt
    have hE0 : |val (zero : F) - (val a.mag - val b.mag)| ≤ (val a.mag + val b.mag) * (1 / 2 ^ 53) + 2 * val (e10 : F) := by
      rw [val_zero, zero_sub, abs_neg]
      linarith only [abs_sub_abs_le_abs_sub (val a.mag - val b.mag) (val (fsub a.mag b.mag)), abs_sub_comm (val a.mag - val b.mag)
        (val (fsub a.mag b.mag)), hlt, hM, hABε, hτ]
    have r1 := opp_real ha0 hb0 hE0 le_rfl (Real.abs_cos_le_one (Tpi a.angle)) hcc'
    have r2 := opp_real ha0 hb0 hE0 le_rfl (Real.abs_sin_le_one (Tpi a.angle)) hss'
    simp only [val_zero, zero_mul] at r1 r2 ⊢
    exact ⟨r1, r2⟩
  · -- the first operand is larger: `[A − B, a.angle]`
    exact ⟨opp_real ha0 hb0 hM hE (Real.abs_cos_le_one _) hcc', opp_real ha0 hb0 hM hE (Real.abs_sin_le_one _) hss'⟩
  · -- the second operand is larger: `[−(A − B), b.angle]`, the same with the operands exchanged
    have hM' : |val (fneg (fsub a.mag b.mag)) - (val b.mag - val a.mag)| ≤ |val a.mag - val b.mag| * (1 / 2 ^ 53) + 1 / 2 ^ 1075 := by
      rw [(fneg_spec hfs).2, ← abs_neg]; simpa [sub_eq_add_neg, add_comm] using hM
    rw [add_comm (val a.mag)] at hE
    rw [add_comm (val a.mag * Real.cos _), add_comm (val a.mag * Real.sin _), add_comm (val a.mag)]
    exact ⟨opp_real hb0 ha0 hM' hE (Real.abs_cos_le_one _) (by rwa [add_comm]),
      opp_real hb0 ha0 hM' hE (Real.abs_sin_le_one _) (by rwa [add_comm])⟩

/-- **addition is the Cartesian sum in rounded arithmetic, in every branch**: the special branches' bounds are below the general one;
    the cancellation threshold `2·1e-10` is the extra term -/
theorem sum_cartF_every_branch {a b : Geonum F} (ha : a.angle.Inv) (hb : b.angle.Inv) (hma : a.MagDom) (hmb : b.MagDom)
    (hcb : a.angle.blade + b.angle.blade ≤ 2 ^ 39) :
    ‖cartF (a.add b) - (cartF a + cartF b)‖
      ≤ genTol F (val a.mag + val b.mag) ((a.angle.blade + b.angle.blade : ℕ) : ℝ) + 2 * val (e10 : F) := by
  have he10 := val_e10_pos (F := F)
  have hsp : (val a.mag + val b.mag) * (1 / 2 ^ 53 + val (e15 : F)) + 1 / 10 ^ 28
      ≤ genTol F (val a.mag + val b.mag) ((a.angle.blade + b.angle.blade : ℕ) : ℝ) := by
    refine add_le_add_left (mul_le_mul_of_nonneg_left ?_ (add_nonneg hma.2.1 hmb.2.1)) _
    have h2 : (0:ℝ) ≤ (40 * ((a.angle.blade + b.angle.blade : ℕ) : ℝ) + 170) * (1 / 2 ^ 53) := by positivity
    linarith only [h2, he10, (val_e15_bounds (F := F)).2, (by norm_num : (1:ℝ) / 2 ^ 53 + 11 / 10 ^ 16 ≤ 2 / 10 ^ 7)]
  by_cases h1 : sameAngle a b = true
  · refine le_trans (prod_norm_le.mpr (sum_cartesian_same_float ha hb hma hmb h1)) ?_
    linarith only [hsp, he10, tiny_1075, (by norm_num : (1:ℝ) / 10 ^ 30 ≤ 1 / 10 ^ 28)]
  rw [Bool.not_eq_true] at h1
  by_cases h2 : oppositeAngle a b = true
  · refine le_trans (prod_norm_le.mpr (sum_cartesian_opposite_float ha hb hma hmb h1 h2)) ?_
    linarith only [hsp, (by positivity : (0:ℝ) ≤ 1 / 10 ^ 28)]
  rw [Bool.not_eq_true] at h2
  exact (sum_cartF_float ha hb hma hmb hcb h1 h2).trans (le_add_of_nonneg_right (mul_nonneg zero_le_two he10.le))

theorem sum_cartesian_every_branch_float {a b : Geonum F} (ha : a.angle.Inv) (hb : b.angle.Inv) (hma : a.MagDom) (hmb : b.MagDom)
    (hcb : a.angle.blade + b.angle.blade ≤ 2 ^ 39) :
    |val (a.add b).mag * Real.cos (Tpi (a.add b).angle)
        - (val a.mag * Real.cos (Tpi a.angle) + val b.mag * Real.cos (Tpi b.angle))|
      ≤ (val a.mag + val b.mag) * (2 / 10 ^ 7 + 11 / 10 * (val (e10 : F)
          + (40 * ((a.angle.blade + b.angle.blade : ℕ) : ℝ) + 170) * (1 / 2 ^ 53))) + 1 / 10 ^ 28 + 2 * val (e10 : F) ∧
    |val (a.add b).mag * Real.sin (Tpi (a.add b).angle)
        - (val a.mag * Real.sin (Tpi a.angle) + val b.mag * Real.sin (Tpi b.angle))|
      ≤ (val a.mag + val b.mag) * (2 / 10 ^ 7 + 11 / 10 * (val (e10 : F)
          + (40 * ((a.angle.blade + b.angle.blade : ℕ) : ℝ) + 170) * (1 / 2 ^ 53))) + 1 / 10 ^ 28 + 2 * val (e10 : F) :=
  prod_norm_le.mp (sum_cartF_every_branch ha hb hma hmb hcb)

/-- **subtraction is the Cartesian difference in rounded arithmetic, in every branch**: the Cartesian point of `a − p` plus that of `p`
    is that of `a`, within the every-branch bound at blade count `ba + bp + 2` (the half turn of `negate` is exact) -/
theorem sub_cartF_every_branch {a p : Geonum F} (ha : a.angle.Inv) (hp : p.angle.Inv) (hma : a.MagDom) (hmp : p.MagDom)
    (hcb : a.angle.blade + p.angle.blade + 2 ≤ 2 ^ 39) :
    ‖cartF (a.sub p) + cartF p - cartF a‖
      ≤ genTol F (val a.mag + val p.mag) ((a.angle.blade + p.angle.blade + 2 : ℕ) : ℝ) + 2 * val (e10 : F) := by
  have hbl := add_negate_blade a hp
  have h := sum_cartF_every_branch (b := p.negate) ha (negate_inv hp) hma hmp (hbl.trans_le hcb)
  rw [hbl] at h
  exact sub_of_add hp h

end Geonum
end GeonumModel
