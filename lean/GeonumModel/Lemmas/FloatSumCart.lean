/-
  GeonumModel.Lemmas.FloatSumCart — the general branch of `+` in rounded arithmetic places the sum at the component-wise sum of the
  operands' true Cartesian points (true π), within `genTol` (`sum_cartF_float`); subtraction through `negate`.
-/
import GeonumModel.Lemmas.FloatSumDir
import GeonumModel.Lemmas.Polar
import GeonumModel.Lemmas.SumMagFloat

namespace GeonumModel
open FloatLike FloatSpec
variable {F : Type} [FloatSpec F]

theorem prod_norm_le {p : ℝ × ℝ} {B : ℝ} : ‖p‖ ≤ B ↔ |p.1| ≤ B ∧ |p.2| ≤ B := max_le_iff

theorem norm_sub_le_of_near {E : Type*} [SeminormedAddCommGroup E] {u v w : E} {B B' : ℝ} (hu : ‖u - w‖ ≤ B) (hv : ‖v - w‖ ≤ B') :
    ‖u - v‖ ≤ B + B' := by
  rw [← sub_sub_sub_cancel_right u v w]; exact (norm_sub_le _ _).trans (add_le_add hu hv)

theorem norm_sub_add_step {E : Type*} [SeminormedAddCommGroup E] {r s p q z : E} {B B' : ℝ} (h1 : ‖r - (s + z)‖ ≤ B)
    (h2 : ‖s - (p + q)‖ ≤ B') : ‖r - (p + (q + z))‖ ≤ B' + B := by
  rw [show r - (p + (q + z)) = (s - (p + q)) + (r - (s + z)) by abel]; exact (norm_add_le _ _).trans (add_le_add h2 h1)

namespace Geonum
open Angle

/-- the true Cartesian point of a geometric number.  `ℝ × ℝ` carries the sup norm, so `‖p − q‖ ≤ B` says that both components agree
    within `B` — the form of every Cartesian statement about `+` and `−` -/
noncomputable def cartF (g : Geonum F) : ℝ × ℝ := (val g.mag * Real.cos (Tpi g.angle), val g.mag * Real.sin (Tpi g.angle))

theorem cartF_negate {p : Geonum F} (hp : p.angle.Inv) : cartF p.negate = -cartF p := by
  have hT : Tpi p.negate.angle = Tpi p.angle + Real.pi := Tpi_negate hp
  have hm : p.negate.mag = p.mag := rfl
  simp only [cartF, hT, hm, Real.cos_add_pi, Real.sin_add_pi, mul_neg, Prod.neg_mk]

/-- accuracy of the general branch of `+` at operand scale `S` and combined blade count `c`: `2e-7·S` is the `√ε`-of-scale bound of
    the magnitude (`sum_mag_true`), the rest the direction error (snap + blade re-encoding) times the length -/
noncomputable def genTol (F : Type) [FloatSpec F] (S c : ℝ) : ℝ :=
  S * (2 / 10 ^ 7 + 11 / 10 * (val (e10 : F) + (40 * c + 170) * (1 / 2 ^ 53))) + 1 / 10 ^ 28

theorem genTol_mono {S S' c c' : ℝ} (hS : 0 ≤ S) (hSS : S ≤ S') (hc : 0 ≤ c) (h : c ≤ c') : genTol F S c ≤ genTol F S' c' := by
  unfold genTol
  have he := val_e10_pos (F := F)
  have hS' := hS.trans hSS
  gcongr

theorem cos_sin_near_mod {T t d : ℝ} {k : ℤ} (h : |T - t - (k : ℝ) * (2 * Real.pi)| ≤ d) :
    |Real.cos T - Real.cos t| ≤ d ∧ |Real.sin T - Real.sin t| ≤ d := by
  rw [sub_right_comm] at h
  rw [← Real.cos_sub_int_mul_two_pi T k, ← Real.sin_sub_int_mul_two_pi T k]
  exact ⟨(Real.abs_cos_sub_cos_le _ _).trans h, (Real.abs_sin_sub_sin_le _ _).trans h⟩

/-! ### the magnitude against the true norm -/

theorem cos_diff_real {d gb ga Tb Ta ε η : ℝ} {kb ka : ℕ} (hd : |d - (gb - ga)| ≤ ε)
    (hb : |gb - (Tb - (kb : ℝ) * (2 * Real.pi))| ≤ η) (ha : |ga - (Ta - (ka : ℝ) * (2 * Real.pi))| ≤ η) :
    |Real.cos d - Real.cos (Tb - Ta)| ≤ ε + 2 * η := by
  refine (cos_sin_near_mod (k := (ka : ℤ) - kb) ?_).1
  have h := abs_add_three (d - (gb - ga)) (gb - (Tb - (kb : ℝ) * (2 * Real.pi))) (-(ga - (Ta - (ka : ℝ) * (2 * Real.pi))))
  rw [abs_neg, show d - (gb - ga) + (gb - (Tb - (kb : ℝ) * (2 * Real.pi))) + -(ga - (Ta - (ka : ℝ) * (2 * Real.pi)))
    = d - (Tb - Ta) - (((ka : ℤ) - kb : ℤ) : ℝ) * (2 * Real.pi) by push_cast; ring] at h
  linarith only [h, hd, hb, ha]

theorem cos_gradeDiff_float {a b : Angle F} (ha : a.Inv) (hb : b.Inv) :
    |val (FloatLike.cos (fsub b.gradeAngle a.gradeAngle)) - Real.cos (Tpi b - Tpi a)| ≤ 13 / 10 ^ 15 := by
  obtain ⟨hfa, _, ha0, ha1⟩ := gradeAngle_spec ha
  obtain ⟨hfb, _, hb0, hb1⟩ := gradeAngle_spec hb
  have hq := val_qp_lt (F := F)
  have hdb : |val b.gradeAngle - val a.gradeAngle| ≤ 8 := by rw [abs_le]; constructor <;> linarith
  obtain ⟨hfd, hvd⟩ := fsub_spec hfb hfa (inRange_of_abs_le_1000 (by linarith))
  have hr := rnd_close_of_abs_le (F := F) hdb
  rw [← hvd] at hr
  linarith only [abs_sub_le (val (FloatLike.cos (fsub b.gradeAngle a.gradeAngle))) (Real.cos (val (fsub b.gradeAngle a.gradeAngle)))
    (Real.cos (Tpi b - Tpi a)), (cos_spec hfd).2.2, errTrig_le (F := F), cos_diff_real hr (gradeAngle_true hb) (gradeAngle_true ha)]

theorem true_norm (A B s t : ℝ) :
    ‖(⟨A * Real.cos s + B * Real.cos t, A * Real.sin s + B * Real.sin t⟩ : ℂ)‖
      = Real.sqrt (A * A + B * B + 2 * A * B * Real.cos (t - s)) := by
  rw [Complex.norm_def, ← Exact.normSq_polar_add]; rfl

/-- **the magnitude of a general-branch sum in rounded arithmetic against the TRUE norm of the Cartesian sum**:
    within `(|a|+|b|)·1.5e-7 + 1e-90` (the `√ε`-of-scale bound; the `1e-14` uncertainty of the cosine contributes `8.1e-8` of it) -/
theorem sum_mag_true {a b : Geonum F} (ha : a.angle.Inv) (hb : b.angle.Inv) (hma : a.MagDom) (hmb : b.MagDom)
    (h1 : sameAngle a b = false) (h2 : oppositeAngle a b = false) :
    |val (a.add b).mag - Real.sqrt (val a.mag * val a.mag + val b.mag * val b.mag
        + 2 * val a.mag * val b.mag * Real.cos (Tpi b.angle - Tpi a.angle))|
      ≤ (val a.mag + val b.mag) * (15 / 10 ^ 8) + 1 / 10 ^ 90 := by
  have hg := gradeAngle_sub_fin ha hb
  have hp := sqrt_lawcos_perturb hma.2.1 hmb.2.1 (cos_spec hg).2.1 (Real.abs_cos_le_one _) (cos_gradeDiff_float ha hb)
    (by norm_num : (0:ℝ) ≤ 81 / 10 ^ 9) (by norm_num)
  refine ((abs_sub_le _ _ _).trans (add_le_add (Geonum.sum_mag_float hma hmb hg h1 h2) hp)).trans ?_
  linarith [mul_le_mul_of_nonneg_left (by norm_num : (1:ℝ) / 2 ^ 24 + 1 / 2 ^ 50 + 81 / 10 ^ 9 ≤ 15 / 10 ^ 8)
    (add_nonneg hma.2.1 hmb.2.1)]

/-! ### the direction against the exact argument -/

/-- cosine and sine of the libm `atan2` value against those of the exact argument of the same point: within `2e-15`, in every case
    incl. the negative real axis (where the sign of a zero decides `±π`) -/
theorem atan2_dir {y x : F} (hy : Fin y) (hx : Fin x) :
    |Real.cos (val (FloatLike.atan2 y x)) - Real.cos (Complex.arg ⟨val x, val y⟩)| ≤ 2 / 10 ^ 15 ∧
    |Real.sin (val (FloatLike.atan2 y x)) - Real.sin (Complex.arg ⟨val x, val y⟩)| ≤ 2 / 10 ^ 15 := by
  obtain ⟨_, hab, hacc⟩ := atan2_spec hy hx
  have het := errTrig_le (F := F)
  by_cases hc : val y = 0 ∧ val x < 0
  · -- negative real axis: the argument is π, the libm value is ±(π_f − e)
    have harg : Complex.arg ⟨val x, val y⟩ = Real.pi := by
      rw [show (⟨val x, val y⟩ : ℂ) = ((val x : ℝ) : ℂ) from Complex.ext rfl (by simp [hc.1])]
      exact Complex.arg_ofReal_of_neg hc.2
    have hd : |(|val (FloatLike.atan2 y x)|) - Real.pi| ≤ 2 / 10 ^ 15 := by
      rw [abs_le]; constructor <;> linarith [atan2_neg_axis hy hx hc.1 hc.2, piV_le (F := F), piV_ge (F := F)]
    have h1 := (Real.abs_cos_sub_cos_le _ _).trans hd
    have h2 := (Real.abs_sin_sub_sin_le _ _).trans hd
    rw [Real.cos_abs] at h1
    rw [Real.sin_pi, sub_zero] at h2
    rw [harg, Real.sin_pi, sub_zero]
    refine ⟨h1, ?_⟩
    rcases abs_choice (val (FloatLike.atan2 y x)) with h | h <;> rw [h] at h2
    · exact h2
    · rwa [Real.sin_neg, abs_neg] at h2
  · have h := (hacc hc).trans (het.trans (by norm_num : (1:ℝ) / 10 ^ 15 ≤ 2 / 10 ^ 15))
    exact ⟨(Real.abs_cos_sub_cos_le _ _).trans h, (Real.abs_sin_sub_sin_le _ _).trans h⟩

/-- from "float total = t + n·4q + δ" to "true total = t + n·2π" (`q` the float quarter turn, `|t| ≤ 4` an `atan2` value) -/
theorem phase_real {br n : ℕ} {q r t D T : ℝ} (hq1 : 3 / 2 < q) (hqc : |q - Real.pi / 2| ≤ 1 / 10 ^ 16)
    (hr0 : 0 ≤ r) (hr1 : r ≤ q) (ht : |t| ≤ 4) (hD : D ≤ 1 / 10)
    (hdir : |((br : ℝ) * q + r) - (t + (n : ℝ) * (4 * q))| ≤ D) (hT : T = (br : ℝ) * (Real.pi / 2) + r) :
    |T - t - (n : ℝ) * (2 * Real.pi)| ≤ D + 1 / 10 ^ 15 := by
  have hq0 : 0 < q := lt_trans (by norm_num) hq1
  -- the blade count is within five quarter turns of `4n`: `(br − 4n)·q` is the direction error plus `t − r`
  have hk : |(br : ℝ) - 4 * (n : ℝ)| ≤ 5 := by
    have hub := abs_add_three (((br : ℝ) * q + r) - (t + (n : ℝ) * (4 * q))) t (-r)
    rw [show ((br : ℝ) * q + r) - (t + (n : ℝ) * (4 * q)) + t + -r = ((br : ℝ) - 4 * (n : ℝ)) * q by ring, abs_mul, abs_of_pos hq0,
      abs_neg, abs_of_nonneg hr0] at hub
    linarith only [hub, mul_le_mul_of_nonneg_left hq1.le (abs_nonneg ((br : ℝ) - 4 * (n : ℝ))), hdir, ht, hD, hr1, (abs_le.mp hqc).2,
      Real.pi_lt_four]
  have h2 : |((br : ℝ) - 4 * (n : ℝ)) * (Real.pi / 2 - q)| ≤ 5 * (1 / 10 ^ 16) := by
    rw [abs_mul]; exact mul_le_mul hk (by rw [abs_sub_comm]; exact hqc) (abs_nonneg _) (by norm_num)
  rw [show T - t - (n : ℝ) * (2 * Real.pi)
      = (((br : ℝ) * q + r) - (t + (n : ℝ) * (4 * q))) + ((br : ℝ) - 4 * (n : ℝ)) * (Real.pi / 2 - q) by rw [hT]; ring]
  refine (abs_add_le _ _).trans ?_
  linarith only [hdir, h2, (by norm_num : (5:ℝ) * (1 / 10 ^ 16) ≤ 1 / 10 ^ 15)]

/-! ### assembly -/

/-- one Cartesian component: `m·u` (result) against `w` (true component sum), through the polar form `w' = N'·v` of the rounded
    component sums -/
theorem component_assemble {m N' u v w w' S κ μ E : ℝ} (hu : |u| ≤ 1) (huv : |u - v| ≤ E) (hw' : w' = N' * v) (hww : |w' - w| ≤ κ)
    (hN'0 : 0 ≤ N') (hN'le : N' ≤ S + 2 * κ) (hmN' : |m - N'| ≤ μ + 2 * κ) :
    |m * u - w| ≤ (μ + 2 * κ) + (S + 2 * κ) * E + κ := by
  have t1 : |(m - N') * u| ≤ μ + 2 * κ := by
    rw [abs_mul]; exact (mul_le_of_le_one_right (abs_nonneg _) hu).trans hmN'
  have t2 : |N' * (u - v)| ≤ (S + 2 * κ) * E := by
    rw [abs_mul, abs_of_nonneg hN'0]
    exact mul_le_mul hN'le huv (abs_nonneg _) (hN'0.trans hN'le)
  rw [show m * u - w = (m - N') * u + N' * (u - v) + (w' - w) by rw [hw']; ring]
  linarith [abs_add_three ((m - N') * u) (N' * (u - v)) (w' - w)]

theorem polar_assemble {m θ X Y X' Y' S κ μ E : ℝ} (hX : |X' - X| ≤ κ) (hY : |Y' - Y| ≤ κ) (hm : |m - ‖(⟨X, Y⟩ : ℂ)‖| ≤ μ)
    (hS : ‖(⟨X, Y⟩ : ℂ)‖ ≤ S) (hc : |Real.cos θ - Real.cos (Complex.arg ⟨X', Y'⟩)| ≤ E)
    (hs : |Real.sin θ - Real.sin (Complex.arg ⟨X', Y'⟩)| ≤ E) :
    |m * Real.cos θ - X| ≤ (μ + 2 * κ) + (S + 2 * κ) * E + κ ∧ |m * Real.sin θ - Y| ≤ (μ + 2 * κ) + (S + 2 * κ) * E + κ := by
  have hzz : |‖(⟨X', Y'⟩ : ℂ)‖ - ‖(⟨X, Y⟩ : ℂ)‖| ≤ 2 * κ :=
    (Exact.hypot_sub_le X' Y' X Y).trans (by linarith only [hX, hY])
  have hN'le : ‖(⟨X', Y'⟩ : ℂ)‖ ≤ S + 2 * κ := by linarith [(abs_le.mp hzz).2]
  have hmN' : |m - ‖(⟨X', Y'⟩ : ℂ)‖| ≤ μ + 2 * κ := by
    have := abs_sub_le m ‖(⟨X, Y⟩ : ℂ)‖ ‖(⟨X', Y'⟩ : ℂ)‖
    rw [abs_sub_comm ‖(⟨X, Y⟩ : ℂ)‖] at this
    linarith
  exact ⟨component_assemble (Real.abs_cos_le_one _) hc (Complex.norm_mul_cos_arg ⟨X', Y'⟩).symm hX (norm_nonneg _) hN'le hmN',
    component_assemble (Real.abs_sin_le_one _) hs (Complex.norm_mul_sin_arg ⟨X', Y'⟩).symm hY (norm_nonneg _) hN'le hmN'⟩

/-- the assembled bound, with `κ` of `component_sums_float` and `μ` of `sum_mag_true`, is below `genTol` -/
theorem bound_real {S E κ μ : ℝ} (hS : 0 ≤ S) (hE0 : 0 ≤ E) (hE1 : E ≤ 1 / 10) (hκ : κ = S * (8 / 10 ^ 15) + 1 / 10 ^ 29)
    (hμ : μ = S * (15 / 10 ^ 8) + 1 / 10 ^ 90) :
    (μ + 2 * κ) + (S + 2 * κ) * E + κ ≤ S * (2 / 10 ^ 7 + 11 / 10 * E) + 1 / 10 ^ 28 := by
  have hκE := mul_le_mul_of_nonneg_left hE1 (show 0 ≤ κ by rw [hκ]; positivity)
  linarith only [hκE, mul_nonneg hS hE0, hκ, hμ, hS]

/-- **C06 in rounded arithmetic, general branch: the Cartesian point of `a + b` (true π) is the component-wise sum of the operands'
    Cartesian points** to within `genTol` at the operands' scale and combined blade count -/
theorem sum_cartF_float {a b : Geonum F} (ha : a.angle.Inv) (hb : b.angle.Inv) (hma : a.MagDom) (hmb : b.MagDom)
    (hcb : a.angle.blade + b.angle.blade ≤ 2 ^ 39) (h1 : sameAngle a b = false) (h2 : oppositeAngle a b = false) :
    ‖cartF (a.add b) - (cartF a + cartF b)‖ ≤ genTol F (val a.mag + val b.mag) ((a.angle.blade + b.angle.blade : ℕ) : ℝ) := by
  obtain ⟨hfadj, hfopp, hX, hY⟩ := component_sums_float ha hb hma hmb
  obtain ⟨n, hdir⟩ := add_general_direction_float ha hb hma hmb hcb h1 h2
  have hmag := sum_mag_true ha hb hma hmb h1 h2
  obtain ⟨hct, hst⟩ := atan2_dir hfopp hfadj
  obtain ⟨_, hr0, hr1⟩ := add_general_inv ha hb hma hmb hcb h1 h2
  have hS : 0 ≤ val a.mag + val b.mag := add_nonneg hma.2.1 hmb.2.1
  have he := val_e10_pos (F := F); have he' := val_e10_small (F := F)
  have hc0 : (0:ℝ) ≤ ((a.angle.blade + b.angle.blade : ℕ) : ℝ) := Nat.cast_nonneg _
  have hcε : ((a.angle.blade + b.angle.blade : ℕ) : ℝ) * (1 / 2 ^ 53) ≤ 1 / 10 ^ 4 :=
    (mul_le_mul_of_nonneg_right (Nat.cast_le.mpr hcb) (by positivity)).trans (by norm_num)
  have h298 : (1:ℝ) / 10 ^ 298 ≤ 1 / 10 ^ 20 :=
    one_div_le_one_div_of_le (by positivity) (pow_le_pow_right₀ (by norm_num) (by norm_num))
  -- the phase: the true total of the result is the `atan2` value modulo whole turns, within the direction bound `+ 1e-15`
  have hph := phase_real (T := Tpi (a.add b).angle) (val_qp_gt (F := F)) (qp_close (F := F)) hr0
    (by linarith only [hr1, he] : val (a.add b).angle.rem ≤ val (qp : F))
    ((atan2_spec hfopp hfadj).2.1.trans (piV_lt4 (F := F)).le) (by linarith only [he', hcε, h298]) hdir.le rfl
  rw [← Int.cast_natCast (R := ℝ) n] at hph
  obtain ⟨hc1, hs1⟩ := cos_sin_near_mod hph
  rw [← true_norm] at hmag
  have hN : ‖(⟨val a.mag * Real.cos (Tpi a.angle) + val b.mag * Real.cos (Tpi b.angle),
      val a.mag * Real.sin (Tpi a.angle) + val b.mag * Real.sin (Tpi b.angle)⟩ : ℂ)‖ ≤ val a.mag + val b.mag := by
    rw [true_norm]
    exact Real.sqrt_le_iff.mpr ⟨hS, (lawcos_bounds hma.2.1 hmb.2.1 (Real.abs_cos_le_one _)).2⟩
  -- `E` is kept opaque for the linear arithmetic
  obtain ⟨E, hE⟩ : ∃ E : ℝ, E = val (e10 : F) + (40 * ((a.angle.blade + b.angle.blade : ℕ) : ℝ) + 170) * (1 / 2 ^ 53) := ⟨_, rfl⟩
  obtain ⟨r1, r2⟩ := polar_assemble (θ := Tpi (a.add b).angle) (E := E) hX hY hmag hN
    ((abs_sub_le_add hc1 hct).trans (by linarith only [h298, hE])) ((abs_sub_le_add hs1 hst).trans (by linarith only [h298, hE]))
  have hbound := bound_real (E := E) hS (by linarith only [hE, he, hc0]) (by linarith only [hE, he', hcε]) rfl rfl
  subst hE
  exact prod_norm_le.mpr ⟨r1.trans hbound, r2.trans hbound⟩

theorem sum_cartesian_float {a b : Geonum F} (ha : a.angle.Inv) (hb : b.angle.Inv) (hma : a.MagDom) (hmb : b.MagDom)
    (hcb : a.angle.blade + b.angle.blade ≤ 2 ^ 39) (h1 : sameAngle a b = false) (h2 : oppositeAngle a b = false) :
    |val (a.add b).mag * Real.cos (Tpi (a.add b).angle)
        - (val a.mag * Real.cos (Tpi a.angle) + val b.mag * Real.cos (Tpi b.angle))|
      ≤ (val a.mag + val b.mag) * (2 / 10 ^ 7 + 11 / 10 * (val (e10 : F)
          + (40 * ((a.angle.blade + b.angle.blade : ℕ) : ℝ) + 170) * (1 / 2 ^ 53))) + 1 / 10 ^ 28 ∧
    |val (a.add b).mag * Real.sin (Tpi (a.add b).angle)
        - (val a.mag * Real.sin (Tpi a.angle) + val b.mag * Real.sin (Tpi b.angle))|
      ≤ (val a.mag + val b.mag) * (2 / 10 ^ 7 + 11 / 10 * (val (e10 : F)
          + (40 * ((a.angle.blade + b.angle.blade : ℕ) : ℝ) + 170) * (1 / 2 ^ 53))) + 1 / 10 ^ 28 :=
  prod_norm_le.mp (sum_cartF_float ha hb hma hmb hcb h1 h2)

theorem sub_of_add {a p : Geonum F} (hp : p.angle.Inv) {B : ℝ}
    (h : ‖cartF (a.add p.negate) - (cartF a + cartF p.negate)‖ ≤ B) : ‖cartF (a.sub p) + cartF p - cartF a‖ ≤ B := by
  rw [cartF_negate hp] at h
  have e : cartF (a.sub p) + cartF p - cartF a = cartF (a.add p.negate) - (cartF a + -cartF p) := by
    show cartF (a.add p.negate) + cartF p - cartF a = _; abel
  rw [e]; exact h

/-- **difference of two geometric numbers in rounded arithmetic, general branch**: the Cartesian point of `a − p` plus that of `p` is
    that of `a`, within `genTol` at blade count `ba + bp + 2` (the half turn of `negate` is exact) -/
theorem sub_cartF_float {a p : Geonum F} (ha : a.angle.Inv) (hp : p.angle.Inv) (hma : a.MagDom) (hmp : p.MagDom)
    (hcb : a.angle.blade + p.angle.blade + 2 ≤ 2 ^ 39)
    (h1 : sameAngle a p.negate = false) (h2 : oppositeAngle a p.negate = false) :
    ‖cartF (a.sub p) + cartF p - cartF a‖ ≤ genTol F (val a.mag + val p.mag) ((a.angle.blade + p.angle.blade + 2 : ℕ) : ℝ) := by
  have hbl := add_negate_blade a hp
  have h := sum_cartF_float (b := p.negate) ha (negate_inv hp) hma hmp (hbl.trans_le hcb) h1 h2
  rw [hbl] at h
  exact sub_of_add hp h

end Geonum
end GeonumModel
