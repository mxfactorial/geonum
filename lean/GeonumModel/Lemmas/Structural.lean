/-
  GeonumModel.Lemmas.Structural — G-tier: true for every arithmetic `F`, no assumption on the float operations at all (core Lean
  only).  Blade shifts, `normalize_boundaries` as a function of the remainder, the blade wrap `wrap4`, `==` on angles as a proposition
  (`beq_iff`), `signed_at`.
-/
import GeonumModel.Model.Geonum

set_option linter.unusedSectionVars false

namespace GeonumModel
open FloatLike
variable {F : Type} [FloatLike F]

namespace Angle

/-- add `4n` quarter turns to the blade count -/
def shift4 (a : Angle F) (n : Nat) : Angle F := ⟨a.rem, a.blade + 4 * n⟩
/-- add `k` quarter turns to the blade count -/
def shift (a : Angle F) (k : Nat) : Angle F := ⟨a.rem, a.blade + k⟩

@[simp] theorem shift4_rem (a : Angle F) (n : Nat) : (a.shift4 n).rem = a.rem := rfl
@[simp] theorem shift4_blade (a : Angle F) (n : Nat) : (a.shift4 n).blade = a.blade + 4 * n := rfl
@[simp] theorem shift_rem (a : Angle F) (n : Nat) : (a.shift n).rem = a.rem := rfl
@[simp] theorem shift_blade (a : Angle F) (n : Nat) : (a.shift n).blade = a.blade + n := rfl

/-- what `normalize_boundaries` does to the remainder, and how many blades it adds, depend on the remainder only -/
def normRem (r : F) : F := (normalizeBoundaries (⟨r, 0⟩ : Angle F)).rem
def normCarry (r : F) : Nat := (normalizeBoundaries (⟨r, 0⟩ : Angle F)).blade

theorem normalizeBoundaries_eq (r : F) (b : Nat) :
    normalizeBoundaries (⟨r, b⟩ : Angle F) = ⟨normRem r, b + normCarry r⟩ := by
  unfold normRem normCarry normalizeBoundaries
  simp only
  split
  · simp
  · split
    · split <;> simp [Nat.add_assoc]
    · simp

theorem geometricSub_rem_blade_indep (a b : Angle F) (ba bb : Nat) :
    ((⟨a.rem, ba⟩ : Angle F).geometricSub ⟨b.rem, bb⟩).rem = (a.geometricSub b).rem := by
  unfold geometricSub
  simp only
  split
  · rfl
  · simp [normalizeBoundaries_eq]

theorem geometricAdd_comm_of_fadd_comm (a b : Angle F) (h : fadd a.rem b.rem = fadd b.rem a.rem) :
    a.geometricAdd b = b.geometricAdd a := by
  unfold geometricAdd
  simp only [h, Nat.add_comm a.blade b.blade]

theorem wrap4_eq (d : Int) : ∃ m : Int, 0 ≤ m ∧ (wrap4 d : Int) = d + 4 * m ∧ (0 ≤ d → m = 0) := by
  unfold wrap4
  split
  · exact ⟨(-d + 3) / 4, by omega, by rw [Int.toNat_of_nonneg (by omega)]; omega, fun h => by omega⟩
  · exact ⟨0, Int.le_refl 0, by rw [Int.toNat_of_nonneg (by omega)]; omega, fun _ => rfl⟩

theorem wrap4_nonneg (d : Int) (h : 0 ≤ d) : (wrap4 d : Int) = d := by
  obtain ⟨m, _, e, h0⟩ := wrap4_eq d
  rw [e, h0 h]; omega

theorem wrap4_neg_lt (d : Int) (h : d < 0) : wrap4 d < 4 := by
  unfold wrap4; rw [if_pos h]; omega

theorem wrap4_le {d : Int} {n : Nat} (h : d ≤ n) : wrap4 d ≤ max n 3 := by
  unfold wrap4; split <;> omega

theorem wrap4_mod (d : Int) : ((wrap4 d : Nat) : Int) % 4 = d % 4 := by
  obtain ⟨m, _, e, _⟩ := wrap4_eq d
  omega

theorem wrap4_ge (d : Int) : d ≤ (wrap4 d : Int) := by
  obtain ⟨m, _, e, _⟩ := wrap4_eq d
  omega

theorem wrap4_shift_mod (d : Int) (k : Int) : (wrap4 (d + 4 * k)) % 4 = (wrap4 d) % 4 := by
  have h1 := wrap4_mod (d + 4 * k)
  have h2 := wrap4_mod d
  omega

theorem beq_iff (a b : Angle F) :
    a.beq b = true ↔ a.blade = b.blade ∧ (flt (fabs (fsub a.rem b.rem)) e15 = true ∨ feq a.rem b.rem = true) := by
  unfold Angle.beq
  by_cases hb : a.blade = b.blade
  · by_cases ht : flt (fabs (fsub a.rem b.rem)) e15 = true <;> simp [hb, ht]
  · simp [hb]

theorem beq_blade {a b : Angle F} (h : a.beq b = true) : a.blade = b.blade := ((beq_iff a b).mp h).1

end Angle

namespace Geonum

theorem signedAt_spec (v : F) (base : Angle F) :
    (signedAt v base).mag = fabs v ∧
    (flt v zero = false → (signedAt v base).angle = base) ∧
    (flt v zero = true → (signedAt v base).angle = base.geometricAdd (Angle.new one one)) := by
  refine ⟨rfl, ?_, ?_⟩ <;> intro h <;> simp [signedAt, newWithAngle, h, Angle.add, Angle.addVV]

end Geonum
end GeonumModel
