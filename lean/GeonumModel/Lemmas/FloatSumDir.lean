/-
  GeonumModel.Lemmas.FloatSumDir — the angle of a sum in rounded arithmetic: canonical in every branch (`add_angle_inv`); in the general
  branch the rounded component sums, the adjusted angle `atan2(Σ opp, Σ adj) − (cb·π)/2`, the direction of the result modulo whole turns, and
  its blade count between the combined count `cb` and `cb + 4` (the quantitative form of known finding `C14-large-blade-turn`).
-/
import GeonumModel.Lemmas.FloatNew
import GeonumModel.Lemmas.FloatTrig

namespace GeonumModel
open FloatLike FloatSpec
variable {F : Type} [FloatSpec F]

namespace Geonum
open Angle

/-- real arithmetic of the adjusted angle: `X = c·P` the exact blade shift (`P = π_f`), `Y` and `Z` the two roundings of `(c·π)/2`, `A` the
    rounded `t − Z` -/
theorem adjusted_real {c P X Y Z t A ε τ : ℝ} (hc : 0 ≤ c) (hP3 : 3 ≤ P) (hP4 : P ≤ 4) (hX : X = c * P)
    (hε0 : 0 < ε) (hε1 : ε ≤ 1 / 100) (hcε1 : c * ε ≤ 1 / 100) (hτ0 : 0 < τ) (hτ1 : τ ≤ 1 / 100)
    (hY : |Y - X| ≤ X * ε + τ) (hZ : |Z - Y / 2| ≤ Y / 2 * ε + τ) (ht : |t| ≤ P)
    (hA : |A - (t - Z)| ≤ |t - Z| * ε + τ) :
    |A - (t - X / 2)| ≤ (7 * c + 5) * ε + 3 * τ ∧ |A| ≤ 2 * c + 6 := by
  have hε := hε0.le
  have hX0 : 0 ≤ X := hX ▸ mul_nonneg hc (le_trans zero_le_three hP3)
  have hXε0 := mul_nonneg hX0 hε
  have hX4 : X ≤ 4 * c := by rw [hX, mul_comm]; exact mul_le_mul_of_nonneg_right hP4 hc
  have hXε := mul_le_mul_of_nonneg_right hX4 hε
  -- the two roundings of the shift: `|Z − X/2| ≤ 5cε + 2τ`
  have hY2 : |Y / 2 - X / 2| ≤ (X * ε + τ) / 2 := by
    rw [← sub_div, abs_div, abs_two]; exact div_le_div_of_nonneg_right hY zero_le_two
  have hYε : Y / 2 * ε ≤ (X / 2 + (X * ε + τ) / 2) * ε :=
    mul_le_mul_of_nonneg_right (by linarith only [hY2, le_abs_self (Y / 2 - X / 2)]) hε
  have hXεε := mul_le_mul_of_nonneg_left hε1 hXε0
  have hτε := mul_le_mul_of_nonneg_left hε1 hτ0.le
  have hZX : |Z - X / 2| ≤ 5 * (c * ε) + 2 * τ := by
    linarith only [abs_sub_le Z (Y / 2) (X / 2), hZ, hY2, hYε, hXεε, hτε, hXε, hXε0, hτ0]
  have htX : |t - X / 2| ≤ 2 * c + 4 := by
    have := abs_sub t (X / 2)
    rw [abs_of_nonneg (div_nonneg hX0 zero_le_two)] at this
    linarith only [this, ht, hP4, hX4]
  have htZ : |t - Z| ≤ 2 * c + 5 := by
    have := abs_sub_le t (X / 2) Z
    rw [abs_sub_comm (X / 2) Z] at this
    linarith only [this, htX, hZX, hcε1, hτ1]
  have htZε := mul_le_mul_of_nonneg_right htZ hε
  have h1 : |A - (t - X / 2)| ≤ (7 * c + 5) * ε + 3 * τ := by
    have := abs_sub_le A (t - Z) (t - X / 2)
    rw [sub_sub_sub_cancel_left, abs_sub_comm (X / 2) Z] at this
    linarith only [this, hA, htZε, hZX]
  exact ⟨h1, by linarith only [abs_sub_abs_le_abs_sub A (t - X / 2), h1, htX, hcε1, hε1, hτ1]⟩

/-- real arithmetic of the direction: the adjusted angle's error, the constructor's error and the whole blades added back -/
theorem direction_real {Tn A t c q e N ε τ w W : ℝ} (hc : 0 ≤ c) (hε : 0 ≤ ε) (hW : 3 * τ + w ≤ W)
    (hAerr : |A - (t - c * q)| ≤ (7 * c + 5) * ε + 3 * τ) (hAabs : |A| ≤ 2 * c + 6)
    (htq : |Tn - (A + N)| < e + (14 * |A| + 46) * ε + w) :
    |Tn + c * q - (t + N)| < e + (40 * c + 140) * ε + W := by
  have h14 : (14 * |A| + 46) * ε ≤ (14 * (2 * c + 6) + 46) * ε := mul_le_mul_of_nonneg_right (by linarith) hε
  have hcε : 0 ≤ c * ε := mul_nonneg hc hε
  rw [show Tn + c * q - (t + N) = (Tn - (A + N)) + (A - (t - c * q)) by ring]
  linarith [abs_add_le (Tn - (A + N)) (A - (t - c * q))]

/-- real arithmetic of the blade count.  The adjusted angle `A ≈ t − c·q` with `|t| ≤ 2q` is below a full turn `4q`; the constructor then
    returns a total `k·q + r` below `4q + η`, `η = e + (48c + 200)ε + W < q`; so `k ≤ 4`, and `k = 4` only with `r ≤ η` -/
theorem blade_real {k : ℕ} {q r A t c e ε τ w W : ℝ} (hq : 3 / 2 < q) (hr : 0 ≤ r) (hc : 0 ≤ c) (hε : 0 ≤ ε) (hε1 : ε ≤ 1 / 10 ^ 15)
    (hcε : c * ε ≤ 1 / 10 ^ 4) (he : e ≤ 1 / 10 ^ 9) (hτ : τ ≤ 1 / 100) (hW : 2 * w ≤ W) (hW1 : W ≤ 1 / 100) (ht : |t| ≤ 2 * q)
    (hAerr : |A - (t - c * q)| ≤ (7 * c + 5) * ε + 3 * τ) (hAabs : |A| ≤ 2 * c + 6)
    (hnew : A ≤ 4 * q → k * q + r < 4 * q + e + (24 * |A| + 46) * ε + 2 * w) :
    k ≤ 4 ∧ (k = 4 → r ≤ e + (48 * c + 200) * ε + W) := by
  have hq0 : 0 ≤ q := le_trans (by norm_num) hq.le
  have hT := hnew (by linarith only [(abs_le.mp hAerr).2, (abs_le.mp ht).2, mul_nonneg hc hq0, hcε, hε1, hτ, hq])
  have h24 : (24 * |A| + 46) * ε ≤ (24 * (2 * c + 6) + 46) * ε := mul_le_mul_of_nonneg_right (by linarith only [hAabs]) hε
  constructor
  · by_contra hk
    have h5 : (5:ℝ) ≤ (k : ℝ) := by exact_mod_cast not_le.mp hk
    linarith only [mul_le_mul_of_nonneg_right h5 hq0, hT, h24, hr, hcε, hε1, he, hW, hW1, hq]
  · rintro rfl
    push_cast at hT
    linarith only [hT, h24, hW, hε]

/-- one component sum, for unit-size factors as `trig_float` provides them -/
theorem comp_sum_float {a b : Geonum F} {c d : F} {C D : ℝ} (hma : a.MagDom) (hmb : b.MagDom)
    (hc : Fin c ∧ |val c| ≤ 1 ∧ |val c - C| ≤ 6 / 10 ^ 15) (hd : Fin d ∧ |val d| ≤ 1 ∧ |val d - D| ≤ 6 / 10 ^ 15) :
    Fin (fadd (fmul a.mag c) (fmul b.mag d)) ∧
    |val (fadd (fmul a.mag c) (fmul b.mag d)) - (val a.mag * C + val b.mag * D)|
      ≤ (val a.mag + val b.mag) * (8 / 10 ^ 15) + 1 / 10 ^ 29 := by
  obtain ⟨hf1, h1⟩ := mul_unit_float hma.1 hma.2.1 hc.1 hc.2.1 hc.2.2
  obtain ⟨hf2, h2⟩ := mul_unit_float hmb.1 hmb.2.1 hd.1 hd.2.1 hd.2.2
  have b1 := (fmul_unit hma.1 hc.1 hc.2.1).2.2
  have b2 := (fmul_unit hmb.1 hd.1 hd.2.1).2.2
  obtain ⟨hf, hv, _⟩ := fadd_bd hf1 hf2 (b1.trans hma.abs_le) (b2.trans hmb.abs_le) (by norm_num)
  rw [abs_of_nonneg hma.2.1] at b1; rw [abs_of_nonneg hmb.2.1] at b2
  have hr := rnd_close_of_abs_le (F := F) ((abs_add_le _ _).trans (add_le_add b1 b2))
  rw [← hv] at hr
  refine ⟨hf, ?_⟩
  generalize val (fadd (fmul a.mag c) (fmul b.mag d)) = s at hr ⊢
  generalize val (fmul a.mag c) = p at *
  generalize val (fmul b.mag d) = q at *
  rw [show s - (val a.mag * C + val b.mag * D) = (s - (p + q)) + (p - val a.mag * C) + (q - val b.mag * D) by ring]
  linarith [abs_add_three (s - (p + q)) (p - val a.mag * C) (q - val b.mag * D), hma.2.1, hmb.2.1]

/-- the two component sums of the general branch against the true Cartesian component sums -/
theorem component_sums_float {a b : Geonum F} (ha : a.angle.Inv) (hb : b.angle.Inv) (hma : a.MagDom) (hmb : b.MagDom) :
    Fin (adjSum a b) ∧ Fin (oppSum a b) ∧
    |val (adjSum a b) - (val a.mag * Real.cos (Tpi a.angle) + val b.mag * Real.cos (Tpi b.angle))|
      ≤ (val a.mag + val b.mag) * (8 / 10 ^ 15) + 1 / 10 ^ 29 ∧
    |val (oppSum a b) - (val a.mag * Real.sin (Tpi a.angle) + val b.mag * Real.sin (Tpi b.angle))|
      ≤ (val a.mag + val b.mag) * (8 / 10 ^ 15) + 1 / 10 ^ 29 := by
  obtain ⟨h1, h2⟩ := comp_sum_float hma hmb (trig_float ha).1 (trig_float hb).1
  obtain ⟨h3, h4⟩ := comp_sum_float hma hmb (trig_float ha).2 (trig_float hb).2
  exact ⟨h1, h3, h2, h4⟩

/-- `t − (k·π)/2` as the general branch forms it, for `|t| ≤ π_f` (an `atan2` value): three rounded operations -/
theorem sub_blade_shift {t : F} {k : ℕ} (ht : Fin t) (ht1 : |val t| ≤ piV F) (hk : k ≤ 2 ^ 39) :
    Fin (fsub t (fdiv (fmul (FloatLike.ofNat k) pi) two)) ∧
    |val (fsub t (fdiv (fmul (FloatLike.ofNat k) pi) two)) - (val t - (k : ℝ) * val (qp : F))|
      ≤ (7 * (k : ℝ) + 5) * (1 / 2 ^ 53) + 3 * (1 / 2 ^ 1075) ∧
    |val (fsub t (fdiv (fmul (FloatLike.ofNat k) pi) two))| ≤ 2 * (k : ℝ) + 6 := by
  have hk53 : k < 2 ^ 53 := lt_of_le_of_lt hk (by norm_num)
  have hp3 := piV_gt3 (F := F); have hp4 := piV_lt4 (F := F)
  have hc0 : (0:ℝ) ≤ (k : ℝ) := Nat.cast_nonneg _
  have hc39 : (k : ℝ) ≤ 2 ^ 39 := by exact_mod_cast hk
  obtain ⟨hf1, hv1, hb1⟩ := fmul_bd (X := 2 ^ 39) (Y := 4) (fin_nat hk53) (fin_pi (F := F))
    (by rw [val_nat hk53, abs_of_nonneg hc0]; exact hc39) (by rw [val_pi, abs_of_pos piV_pos]; exact hp4.le) (by norm_num)
  rw [val_nat hk53, val_pi] at hv1
  obtain ⟨hf2, hv2⟩ := fdiv_two hf1
  obtain ⟨hf3, hv3, _⟩ := fsub_bd (Y := 2 ^ 42 + 2) ht hf2 (ht1.trans hp4.le) (hv2 ▸ (abs_rnd_le_two_mul _).trans (by
    rw [abs_div, abs_two]; linarith only [hb1])) (by norm_num)
  -- their rounding errors, in the shape `adjusted_real` takes them
  have hx0 : 0 ≤ (k : ℝ) * piV F := mul_nonneg hc0 piV_pos.le
  have eY := rnd_rel (F := F) ((k : ℝ) * piV F)
  rw [abs_of_nonneg hx0, ← hv1] at eY
  have hy0 : 0 ≤ val (fmul (FloatLike.ofNat k : F) pi) / 2 := div_nonneg (hv1 ▸ rnd_nonneg hx0) zero_le_two
  have eZ := rnd_rel (F := F) (val (fmul (FloatLike.ofNat k : F) pi) / 2)
  rw [abs_of_nonneg hy0, ← hv2] at eZ
  have eA := rnd_rel (F := F) (val t - val (fdiv (fmul (FloatLike.ofNat k : F) pi) two))
  rw [← hv3] at eA
  have key := adjusted_real hc0 hp3.le hp4.le rfl (by positivity) (by norm_num)
    ((mul_le_mul_of_nonneg_right hc39 (by positivity)).trans (by norm_num)) (by positivity) (tiny_1075.trans (by norm_num))
    eY eZ ht1 eA
  rw [val_qp, ← mul_div_assoc]
  exact ⟨hf3, key⟩

theorem general_adjusted {a b : Geonum F} (ha : a.angle.Inv) (hb : b.angle.Inv) (hma : a.MagDom) (hmb : b.MagDom)
    (hcb : a.angle.blade + b.angle.blade ≤ 2 ^ 39) :
    |val (FloatLike.atan2 (oppSum a b) (adjSum a b))| ≤ piV F ∧ Fin (adjusted a b) ∧
    |val (adjusted a b) - (val (FloatLike.atan2 (oppSum a b) (adjSum a b)) - ((a.angle.blade + b.angle.blade : ℕ) : ℝ) * val (qp : F))|
      ≤ (7 * ((a.angle.blade + b.angle.blade : ℕ) : ℝ) + 5) * (1 / 2 ^ 53) + 3 * (1 / 2 ^ 1075) ∧
    |val (adjusted a b)| ≤ 2 * ((a.angle.blade + b.angle.blade : ℕ) : ℝ) + 6 := by
  obtain ⟨hadj, hopp, _⟩ := component_sums_float ha hb hma hmb
  obtain ⟨hfat, hat1, _⟩ := atan2_spec hopp hadj
  exact ⟨hat1, sub_blade_shift hfat hat1 hcb⟩

theorem add_general_angle {a b : Geonum F} (ha : a.angle.Inv) (hb : b.angle.Inv) (hma : a.MagDom) (hmb : b.MagDom)
    (hcb : a.angle.blade + b.angle.blade ≤ 2 ^ 39) (h1 : sameAngle a b = false) (h2 : oppositeAngle a b = false) :
    (Angle.new (adjusted a b) (FloatLike.pi : F)).Inv ∧ |val (adjusted a b)| ≤ 2 ^ 41 ∧
    (a.add b).angle = (Angle.new (adjusted a b) (FloatLike.pi : F)).geometricAdd ⟨zero, a.angle.blade + b.angle.blade⟩ := by
  obtain ⟨_, hfA, _, hAabs⟩ := general_adjusted ha hb hma hmb hcb
  have hc : ((a.angle.blade + b.angle.blade : ℕ) : ℝ) ≤ 2 ^ 39 := by exact_mod_cast hcb
  have hA41 : |val (adjusted a b)| ≤ 2 ^ 41 := hAabs.trans (by linarith)
  refine ⟨new_radians_inv hfA hA41, hA41, ?_⟩
  rw [add_general a b h1 h2]
  show Angle.newWithBlade _ _ (FloatLike.pi : F) = _
  unfold Angle.newWithBlade
  simp only [Angle.add, addVV]
  rw [new_nat _ (lt_of_le_of_lt hcb (by norm_num))]

theorem add_general_inv {a b : Geonum F} (ha : a.angle.Inv) (hb : b.angle.Inv) (hma : a.MagDom) (hmb : b.MagDom)
    (hcb : a.angle.blade + b.angle.blade ≤ 2 ^ 39) (h1 : sameAngle a b = false) (h2 : oppositeAngle a b = false) :
    (a.add b).angle.Inv := by
  obtain ⟨hninv, _, hres⟩ := add_general_angle ha hb hma hmb hcb h1 h2
  rw [hres]; exact add_whole_inv hninv (fin_zero (F := F)) (val_zero (F := F))

/-- (S) **the sum of two geometric numbers has a canonical angle in every branch** (blade sums up to `2^39`): same-angle and
    opposite branches return an operand's angle or `new_with_blade(ba+bb, 0, 1)`; the general branch re-encodes
    `atan2(…) − (ba+bb)·π/2` through `Angle::new(·, PI)` and adds the blade sum -/
theorem add_angle_inv {a b : Geonum F} (ha : a.angle.Inv) (hb : b.angle.Inv) (hma : a.MagDom) (hmb : b.MagDom)
    (hcb : a.angle.blade + b.angle.blade ≤ 2 ^ 39) : (a.add b).angle.Inv := by
  refine add_cases a b (fun _ => ha) (fun _ _ _ => ?_) (fun _ _ _ _ => ha) (fun _ _ _ _ => hb) (fun h1 h2 => ?_)
  · rw [newWithBlade_zero _ (lt_of_le_of_lt hcb (by norm_num))]; exact inv_zero _
  · have h := add_general_inv ha hb hma hmb hcb h1 h2
    rwa [add_general a b h1 h2] at h

/-- `add_mag_ok` for canonical operands -/
theorem add_mag_ok' {a b : Geonum F} (ha : a.MagDom) (hb : b.MagDom) (hai : a.angle.Inv) (hbi : b.angle.Inv) :
    Fin (a.add b).mag ∧ 0 ≤ val (a.add b).mag :=
  add_mag_ok ha hb (gradeAngle_sub_fin hai hbi)

theorem add_negate_blade (a : Geonum F) {b : Geonum F} (hb : b.angle.Inv) :
    a.angle.blade + b.negate.angle.blade = a.angle.blade + b.angle.blade + 2 :=
  congrArg (a.angle.blade + ·) (negate_spec hb).1

/-- (S) the difference `a − b = a + b.negate` has a canonical angle -/
theorem sub_angle_inv {a b : Geonum F} (ha : a.angle.Inv) (hb : b.angle.Inv) (hma : a.MagDom) (hmb : b.MagDom)
    (hcb : a.angle.blade + b.angle.blade + 2 ≤ 2 ^ 39) : (a.sub b).angle.Inv :=
  add_angle_inv ha (negate_inv hb) hma (show b.negate.MagDom from hmb) ((add_negate_blade a hb).trans_le hcb)

theorem sub_mag_ok' {a b : Geonum F} (ha : a.MagDom) (hb : b.MagDom) (hai : a.angle.Inv) (hbi : b.angle.Inv) :
    Fin (a.sub b).mag ∧ 0 ≤ val (a.sub b).mag :=
  add_mag_ok' ha (show b.negate.MagDom from hb) hai (negate_inv hbi)

/-- (B, C06) direction of the sum in the general branch: the float total of the result is the libm `atan2` of the rounded component sums
    plus a whole number of turns, to within `1e-10 + (40·cb + 140)·2⁻⁵³` -/
theorem add_general_direction_float {a b : Geonum F} (ha : a.angle.Inv) (hb : b.angle.Inv) (hma : a.MagDom) (hmb : b.MagDom)
    (hcb : a.angle.blade + b.angle.blade ≤ 2 ^ 39) (h1 : sameAngle a b = false) (h2 : oppositeAngle a b = false) :
    ∃ n : ℕ, |Tq (a.add b).angle - (val (FloatLike.atan2 (oppSum a b) (adjSum a b)) + (n : ℝ) * (4 * val (qp : F)))|
      < val (e10 : F) + (40 * ((a.angle.blade + b.angle.blade : ℕ) : ℝ) + 140) * (1 / 2 ^ 53) + 1 / 10 ^ 298 := by
  obtain ⟨_, hfA, hAerr, hAabs⟩ := general_adjusted ha hb hma hmb hcb
  obtain ⟨hninv, hA41, hres⟩ := add_general_angle ha hb hma hmb hcb h1 h2
  obtain ⟨n, htq⟩ := new_radians_abs hfA hA41
  refine ⟨n, ?_⟩
  rw [hres, Tq_add_whole hninv (fin_zero (F := F)) (val_zero (F := F))]
  refine direction_real (Nat.cast_nonneg _) (by positivity) ?_ hAerr hAabs htq
  linarith [tiny_1075_300, e300_e298, (by positivity : (0:ℝ) ≤ 1 / 10 ^ 300)]

/-- (B, C14) blade history of the sum in the general branch: `cb ≤ blade(a+b) ≤ cb + 4`, and `cb + 4` only with a remainder of at most
    `1e-10 + (48·cb + 200)·2⁻⁵³` -/
theorem add_general_blade_float {a b : Geonum F} (ha : a.angle.Inv) (hb : b.angle.Inv) (hma : a.MagDom) (hmb : b.MagDom)
    (hcb : a.angle.blade + b.angle.blade ≤ 2 ^ 39) (h1 : sameAngle a b = false) (h2 : oppositeAngle a b = false) :
    a.angle.blade + b.angle.blade ≤ (a.add b).angle.blade ∧
    (a.add b).angle.blade ≤ a.angle.blade + b.angle.blade + 4 ∧
    ((a.add b).angle.blade = a.angle.blade + b.angle.blade + 4 →
      val (a.add b).angle.rem ≤ val (e10 : F) + (48 * ((a.angle.blade + b.angle.blade : ℕ) : ℝ) + 200) * (1 / 2 ^ 53) + 1 / 10 ^ 298) := by
  obtain ⟨hat1, hfA, hAerr, hAabs⟩ := general_adjusted ha hb hma hmb hcb
  obtain ⟨hninv, hA41, hres⟩ := add_general_angle ha hb hma hmb hcb h1 h2
  obtain ⟨hbl, _, hvr⟩ := add_whole hninv (fin_zero (F := F)) (val_zero (F := F))
    (z := (⟨zero, a.angle.blade + b.angle.blade⟩ : Angle F))
  rw [hres, hbl, hvr]
  simp only
  obtain ⟨hk4, hk4r⟩ := blade_real (val_qp_gt (F := F)) hninv.2.1 (Nat.cast_nonneg _) (by positivity) (by norm_num)
    ((mul_le_mul_of_nonneg_right (Nat.cast_le.mpr hcb) (by positivity)).trans (by norm_num)) (val_e10_small (F := F))
    (tiny_1075.trans (by norm_num)) (by linarith [e300_e298, (by positivity : (0:ℝ) ≤ 1 / 10 ^ 300)] : 2 * (1 / 10 ^ 300) ≤ (1:ℝ) / 10 ^ 298)
    (one_div_le_one_div_of_le (by norm_num) (le_trans (by norm_num) (pow_le_pow_right₀ (by norm_num : (1:ℝ) ≤ 10) (by norm_num : 2 ≤ 298))))
    (hat1.trans_eq (by rw [val_qp]; ring)) hAerr hAabs (new_radians_upper hfA hA41)
  exact ⟨by omega, by omega, fun hk => hk4r (by omega)⟩

end Geonum
end GeonumModel
