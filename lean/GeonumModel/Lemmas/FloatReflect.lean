/-
  GeonumModel.Lemmas.FloatReflect — S/B-tier for reflection: the direction law `t ↦ 2α − t` in ROUNDED arithmetic, in units of
  the float quarter turn (`Tq x = blade·(π_f/2) + rem`), modulo whole turns `4·(π_f/2)`.
-/
import GeonumModel.Lemmas.Total

namespace GeonumModel
open FloatLike FloatSpec
variable {F : Type} [FloatSpec F]
namespace Geonum
open Angle

theorem reflect_inv {g axis : Geonum F} (hg : g.angle.Inv) (hax : axis.angle.Inv) : (g.reflect axis).angle.Inv :=
  geometricAdd_inv (geometricAdd_inv hax hax)
    (geometricSub_inv new_four_one.whole_inv (baseAngle_inv hg))

/-- (S/B, C12) reflection sends direction `t` to `2α − t` modulo whole turns, to within three snap tolerances, whatever the blade
    histories of the number and the axis -/
theorem reflect_direction_float {g axis : Geonum F} (hg : g.angle.Inv) (hax : axis.angle.Inv) :
    (g.reflect axis).mag = g.mag ∧
    ∃ (δ : ℝ) (m : ℤ), |δ| < 3 * (val (e10 : F) + 1 / 10 ^ 15) ∧
      Tq (g.reflect axis).angle = 2 * Tq axis.angle - Tq g.angle + δ + (m : ℝ) * (4 * val (qp : F)) := by
  refine ⟨rfl, ?_⟩
  obtain ⟨hb8, _, hv8⟩ := (new_four_one (F := F)).whole
  have h4inv : (Angle.new (four : F) one).Inv := new_four_one.whole_inv
  have hT4 : Tq (Angle.new (four : F) one) = (2 : ℝ) * (4 * val (qp : F)) := by
    rw [Tq_eq_Tw, Tw_of_val_zero _ hv8, hb8]; push_cast; ring
  obtain ⟨δ2, m2, hδ2, hc⟩ := sub_total_q h4inv (baseAngle_inv hg)
  have hcinv := geometricSub_inv h4inv (baseAngle_inv hg)
  obtain ⟨δ1, hδ1, haa⟩ := add_total_q hax hax
  have haainv := geometricAdd_inv hax hax
  obtain ⟨δ3, hδ3, hres⟩ := add_total_q haainv hcinv
  refine ⟨δ1 + δ2 + δ3, m2 + 2 + (g.angle.blade / 4 : ℕ), ?_, ?_⟩
  · have := abs_add_three δ1 δ2 δ3
    linarith
  · show Tq ((axis.angle.geometricAdd axis.angle).geometricAdd ((Angle.new four one).geometricSub g.angle.baseAngle)) = _
    rw [hres, haa, hc, hT4, Tq_baseAngle]
    simp only [Int.cast_add, Int.cast_natCast, Int.cast_ofNat]
    ring

/-- (S/B, C12) a number lying on the axis keeps its direction -/
theorem reflect_on_axis_float {g axis : Geonum F} (hg : g.angle.Inv) (hax : axis.angle.Inv)
    (hon : Tq g.angle = Tq axis.angle) :
    ∃ (δ : ℝ) (m : ℤ), |δ| < 3 * (val (e10 : F) + 1 / 10 ^ 15) ∧
      Tq (g.reflect axis).angle = Tq g.angle + δ + (m : ℝ) * (4 * val (qp : F)) := by
  obtain ⟨_, δ, m, hδ, h⟩ := reflect_direction_float hg hax
  exact ⟨δ, m, hδ, by rw [h, hon]; ring⟩

/-- (S/B, C12) reflecting twice across the same axis restores the direction, to within six snap tolerances -/
theorem reflect_twice_float {g axis : Geonum F} (hg : g.angle.Inv) (hax : axis.angle.Inv) :
    ((g.reflect axis).reflect axis).mag = g.mag ∧
    ∃ (δ : ℝ) (m : ℤ), |δ| < 6 * (val (e10 : F) + 1 / 10 ^ 15) ∧
      Tq ((g.reflect axis).reflect axis).angle = Tq g.angle + δ + (m : ℝ) * (4 * val (qp : F)) := by
  refine ⟨rfl, ?_⟩
  obtain ⟨_, δ1, m1, hδ1, h1⟩ := reflect_direction_float hg hax
  obtain ⟨_, δ2, m2, hδ2, h2⟩ := reflect_direction_float (reflect_inv hg hax) hax
  refine ⟨δ2 - δ1, m2 - m1, ?_, ?_⟩
  · have := abs_sub δ2 δ1
    linarith
  · rw [h2, h1]; push_cast; ring

end Geonum
end GeonumModel
