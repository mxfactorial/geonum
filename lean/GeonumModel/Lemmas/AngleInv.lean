/-
  GeonumModel.Lemmas.AngleInv — what every S-tier argument about `Angle` starts from: threshold tests `(r - c).abs() < t`, the
  reachable-state invariant `Inv` and value equivalence `≈ₐ`, the float total `Tq`, the two normalising steps (`fmod` by the quarter
  turn, `normalize_boundaries`), and the library's comparisons (`==` on angles, `partial_cmp` on finite values).
-/
import GeonumModel.Lemmas.SpecBasic
import GeonumModel.Lemmas.Structural

namespace GeonumModel
open FloatLike FloatSpec

variable {F : Type} [FloatSpec F]

/-! ### threshold tests -/

/-- a threshold test `(r - c).abs() < t` -/
theorem abs_test_iff {r c t : F} (hr : Fin r) (hc : Fin c) (ht : Fin t) (hrange : InRange (F := F) (val r - val c)) :
    flt (fabs (fsub r c)) t = true ↔ |rnd (F := F) (val r - val c)| < val t := by
  obtain ⟨hf, hv⟩ := fsub_spec hr hc hrange
  obtain ⟨hfa, hva⟩ := fabs_spec hf
  rw [flt_spec hfa ht, hva, hv]

theorem near_of_test {r c t : F} (hr : Fin r) (hc : Fin c) (ht : Fin t)
    (hrange : InRange (F := F) (val r - val c))
    (h : flt (fabs (fsub r c)) t = true) : |val r - val c| < val t := by
  rw [abs_test_iff hr hc ht hrange] at h
  exact lt_of_not_ge fun hcon => absurd h (not_lt.mpr (abs_rnd_ge (rep_val ht) hcon))

/-- the subtraction is exact by Sterbenz -/
theorem test_of_near {r c t : F} (hr : Fin r) (hc : Fin c) (ht : Fin t) (htc : val t ≤ val c / 2)
    (h : |val r - val c| < val t) : flt (fabs (fsub r c)) t = true := by
  rw [abs_lt] at h
  obtain ⟨hf, hv⟩ := sterbenz hr hc (by linarith) (by linarith)
  obtain ⟨hfa, hva⟩ := fabs_spec hf
  rw [flt_spec hfa ht, hva, hv, abs_lt]
  exact h

theorem test_of_val_eq {r c t : F} (hr : Fin r) (hc : Fin c) (ht : Fin t) (h : val r = val c) (ht0 : 0 < val t) :
    flt (fabs (fsub r c)) t = true := by
  rwa [abs_test_iff hr hc ht (by rw [h, sub_self]; exact inRange_of_abs_le_1000 (by norm_num)), h, sub_self, rnd_zero,
    abs_zero]

/-- needs symmetric rounding, `rnd (−x) = −rnd x` -/
theorem abs_test_symm {r c t : F} (hr : Fin r) (hc : Fin c) (ht : Fin t) (hrange : InRange (F := F) (val r - val c)) :
    flt (fabs (fsub r c)) t = flt (fabs (fsub c r)) t := by
  have hrange' : InRange (F := F) (val c - val r) := inRange_mono (by rw [abs_sub_comm]) hrange
  rw [Bool.eq_iff_iff, abs_test_iff hr hc ht hrange, abs_test_iff hc hr ht hrange', ← neg_sub (val r) (val c), rnd_neg, abs_neg]

/-! ### the invariant, value equivalence, the float total -/
namespace Angle

/-- reachable-state invariant: finite remainder in `[0, π/2 − 1e-10]` (never inside the snap band) -/
def Inv (a : Angle F) : Prop :=
  Fin a.rem ∧ 0 ≤ val a.rem ∧ val a.rem + val (e10 : F) ≤ val (qp : F)

/-- the documented range `[0, π/2)` -/
def Canon (a : Angle F) : Prop := Fin a.rem ∧ 0 ≤ val a.rem ∧ val a.rem < val (qp : F)

theorem Inv.canon {a : Angle F} (h : a.Inv) : a.Canon :=
  ⟨h.1, h.2.1, by have := val_e10_pos (F := F); linarith [h.2.2]⟩

theorem Inv.rem_le {a : Angle F} (h : a.Inv) : val a.rem ≤ val (qp : F) :=
  le_of_add_le_of_nonneg_left h.2.2 val_e10_pos.le

theorem Inv.abs_sub_rem_le {a b : Angle F} (ha : a.Inv) (hb : b.Inv) : |val a.rem - val b.rem| ≤ 2 :=
  (abs_sub_le_of_nonneg_of_le ha.2.1 ha.rem_le hb.2.1 hb.rem_le).trans val_qp_lt.le

theorem Inv.inRange_sub_rem {a b : Angle F} (ha : a.Inv) (hb : b.Inv) : InRange (F := F) (val a.rem - val b.rem) :=
  inRange_of_abs_le_1000 ((ha.abs_sub_rem_le hb).trans (by norm_num))

/-- the invariant reads the remainder's value only -/
theorem inv_of_spec {a r : Angle F} (ha : a.Inv) (h : Fin r.rem ∧ val r.rem = val a.rem) : r.Inv :=
  ⟨h.1, by rw [h.2]; exact ha.2.1, by rw [h.2]; exact ha.2.2⟩

/-- whatever the bits of the zero (`+0.0`, `-0.0`) -/
theorem inv_of_val_zero {z : Angle F} (hf : Fin z.rem) (h0 : val z.rem = 0) : z.Inv := by
  refine ⟨hf, h0.ge, ?_⟩
  rw [h0, zero_add]
  exact val_e10_small.trans (le_trans (by norm_num) val_qp_gt.le)

theorem inv_zero (b : Nat) : (⟨zero, b⟩ : Angle F).Inv := inv_of_val_zero fin_zero val_zero

/-- value equivalence of angles: same blade, finite remainders with the same real value
    (on binary64: identical bits except possibly the sign of a zero remainder) -/
def Equiv (a b : Angle F) : Prop :=
  a.blade = b.blade ∧ Fin a.rem ∧ Fin b.rem ∧ val a.rem = val b.rem

scoped infix:50 " ≈ₐ " => Angle.Equiv

theorem Equiv.refl' {a : Angle F} (h : Fin a.rem) : a ≈ₐ a := ⟨rfl, h, h, rfl⟩
theorem Equiv.symm {a b : Angle F} (h : a ≈ₐ b) : b ≈ₐ a := ⟨h.1.symm, h.2.2.1, h.2.1, h.2.2.2.symm⟩
theorem Equiv.trans {a b c : Angle F} (h : a ≈ₐ b) (g : b ≈ₐ c) : a ≈ₐ c :=
  ⟨h.1.trans g.1, h.2.1, g.2.2.1, h.2.2.2.trans g.2.2.2⟩
theorem Equiv.inv {a b : Angle F} (h : a ≈ₐ b) (ha : a.Inv) : b.Inv := inv_of_spec ha ⟨h.2.2.1, h.2.2.2.symm⟩

theorem Equiv.whole {z : Angle F} {k : ℕ} (h : z ≈ₐ ⟨zero, k⟩) : z.blade = k ∧ Fin z.rem ∧ val z.rem = 0 :=
  ⟨h.1, h.2.1, h.2.2.2.trans val_zero⟩

theorem Equiv.whole_inv {z : Angle F} {k : ℕ} (h : z ≈ₐ ⟨zero, k⟩) : z.Inv :=
  inv_of_val_zero h.whole.2.1 h.whole.2.2

/-- total angle in units of the float constant: `blade · (π_f/2) + rem` -/
noncomputable def Tq (a : Angle F) : ℝ := (a.blade : ℝ) * val (qp : F) + val a.rem

theorem Tq_nonneg {a : Angle F} (ha : a.Inv) : 0 ≤ Tq a :=
  add_nonneg (mul_nonneg (Nat.cast_nonneg _) (by linarith [val_qp_gt (F := F)])) ha.2.1

/-! ### the two normalising steps -/

theorem inRange_sub_qp {r : F} (h0 : 0 ≤ val r) (h1 : val r ≤ 4) :
    InRange (F := F) (val r - val (qp : F)) :=
  inRange_of_abs_le_1000 ((abs_sub_le_of_nonneg_of_le h0 h1 (le_trans (by norm_num) val_qp_gt.le)
    (val_qp_lt.le.trans (by norm_num))).trans (by norm_num))

theorem fmod_qp_spec {x : F} (hf : Fin x) (h0 : 0 ≤ val x) :
    Fin (fmod x (qp : F)) ∧ val (fmod x (qp : F)) = val x - (⌊val x / val (qp : F)⌋₊ : ℝ) * val (qp : F) ∧
      0 ≤ val (fmod x (qp : F)) ∧ val (fmod x (qp : F)) < val (qp : F) := by
  have hqpos : (0:ℝ) < val (qp : F) := lt_trans (by norm_num) val_qp_gt
  obtain ⟨hfr, hvr⟩ := fmod_spec hf fin_qp h0 hqpos
  have hquot0 : 0 ≤ val x / val (qp : F) := div_nonneg h0 hqpos.le
  rw [← Int.natCast_floor_eq_floor hquot0, Int.cast_natCast] at hvr
  have hk1 := Nat.floor_le hquot0
  have hk2 := Nat.lt_floor_add_one (val x / val (qp : F))
  rw [le_div_iff₀ hqpos] at hk1
  rw [div_lt_iff₀ hqpos] at hk2
  exact ⟨hfr, hvr, hvr ▸ sub_nonneg.mpr hk1, by rw [hvr]; linarith⟩

theorem snap_test_iff {r : F} (hr : Fin r) (h0 : 0 ≤ val r) (h4 : val r ≤ 4) :
    flt (fabs (fsub r qp)) e10 = true ↔ |val r - val (qp : F)| < val (e10 : F) := by
  have hq := val_qp_gt (F := F); have he := val_e10_small (F := F)
  have : (1:ℝ) / 10 ^ 9 ≤ 3 / 4 := by norm_num
  exact ⟨near_of_test hr fin_qp fin_e10 (inRange_sub_qp h0 h4), test_of_near hr fin_qp fin_e10 (by linarith)⟩

theorem carry_quot_real {q e r : ℝ} (hq : 0 < q) (hq' : q ≤ 2) (he : 0 ≤ e) (hlo : q + e ≤ r) (hhi : r + e ≤ 2 * q) :
    1 ≤ r / q ∧ r / q ≤ 2 - e / 2 := by
  rw [le_div_iff₀ hq, div_le_iff₀ hq]
  have := mul_le_mul_of_nonneg_left hq' he
  constructor <;> linarith

theorem floor_eq_one {x : ℝ} (h1 : 1 ≤ x) (h2 : x < 2) : ⌊x⌋₊ = 1 := by
  rw [Nat.floor_eq_iff (by linarith)]; constructor <;> push_cast <;> linarith

theorem carry_spec {r : F} (hr : Fin r) (hlo : val (qp : F) + val (e10 : F) ≤ val r)
    (hhi : val r + val (e10 : F) ≤ 2 * val (qp : F)) :
    Fin (fmod r (qp : F)) ∧ val (fmod r (qp : F)) = val r - val (qp : F) ∧ toUsize (fdiv r (qp : F)) = 1 := by
  have he0 := val_e10_pos (F := F)
  have hqpos : (0:ℝ) < val (qp : F) := lt_trans (by norm_num) val_qp_gt
  obtain ⟨hx1, hx2⟩ := carry_quot_real hqpos val_qp_lt.le he0.le hlo hhi
  have hx2' : val r / val (qp : F) < 2 := by linarith
  obtain ⟨hfm, hvm, -⟩ := fmod_qp_spec hr ((add_nonneg hqpos.le he0.le).trans hlo)
  obtain ⟨hfd, hvd⟩ := fdiv_spec hr fin_qp hqpos.ne'
    (inRange_of_nonneg_le_1000 (zero_le_one.trans hx1) (hx2'.le.trans (by norm_num)))
  rw [floor_eq_one hx1 hx2', Nat.cast_one, one_mul] at hvm
  refine ⟨hfm, hvm, ?_⟩
  -- the rounded quotient stays in `[1, 2)`: the rounding error `2·2⁻⁵³ + 10⁻³⁰` is below `e/2`
  have hd1 : (1:ℝ) ≤ val (fdiv r (qp : F)) := hvd ▸ le_rnd rep_one hx1
  have hd2 : val (fdiv r (qp : F)) < 2 := by
    have hc := (abs_le.mp (rnd_close_bound (F := F) (zero_le_one.trans hx1) hx2'.le)).2
    rw [← hvd] at hc
    linarith only [hc, hx2, (val_e10_bounds (F := F)).1,
      show (2:ℝ) / 2 ^ 53 + 1 / 10 ^ 30 < 9 / 10 ^ 11 / 2 by norm_num]
  rw [toUsize_spec hfd (zero_le_one.trans hd1) (hd2.trans (by norm_num)), floor_eq_one hd1 hd2]

/-- the three outcomes of `normalize_boundaries` on a remainder in `[0, 2·qp − 1e-10]`: unchanged, snapped to the next blade, one
    blade carried -/
theorem normalizeBoundaries_spec (r : F) (b : Nat) (hr : Fin r) (h0 : 0 ≤ val r)
    (h1 : val r + val (e10 : F) ≤ 2 * val (qp : F)) :
    (normalizeBoundaries ⟨r, b⟩).Inv ∧
    ( (normalizeBoundaries ⟨r, b⟩ = ⟨r, b⟩ ∧ val r + val (e10 : F) ≤ val (qp : F)) ∨
      (normalizeBoundaries ⟨r, b⟩ = ⟨zero, b + 1⟩ ∧ |val r - val (qp : F)| < val (e10 : F)) ∨
      ((normalizeBoundaries ⟨r, b⟩).blade = b + 1 ∧
        val (normalizeBoundaries ⟨r, b⟩).rem = val r - val (qp : F) ∧ val (qp : F) + val (e10 : F) ≤ val r) ) := by
  have hq' := val_qp_lt (F := F); have he := val_e10_pos (F := F)
  have hr4 : val r ≤ 4 := by linarith only [h1, hq', he]
  unfold normalizeBoundaries
  simp only
  by_cases hsnap : |val r - val (qp : F)| < val (e10 : F)
  · rw [if_pos ((snap_test_iff hr h0 hr4).mpr hsnap)]
    exact ⟨inv_zero _, Or.inr (Or.inl ⟨rfl, hsnap⟩)⟩
  rw [if_neg (mt (snap_test_iff hr h0 hr4).mp hsnap)]
  rw [not_lt] at hsnap
  by_cases hge : val (qp : F) ≤ val r
  · have hge' : fge r (qp : F) = true := (fle_spec fin_qp hr).mpr hge
    rw [abs_of_nonneg (sub_nonneg.mpr hge)] at hsnap
    have hlow : val (qp : F) + val (e10 : F) ≤ val r := by linarith only [hsnap]
    obtain ⟨hfm, hvm, hus⟩ := carry_spec hr hlow h1
    have hm0 : 0 ≤ val (fmod r (qp : F)) := hvm ▸ sub_nonneg.mpr hge
    have hm1 : val (fmod r (qp : F)) + val (e10 : F) ≤ val (qp : F) := by linarith only [hvm, h1]
    have hsnap2 : ¬ |val (fmod r (qp : F)) - val (qp : F)| < val (e10 : F) := fun h => by
      linarith only [(abs_lt.mp h).1, hm1]
    rw [if_pos hge', if_neg (mt (snap_test_iff hfm hm0 (by linarith only [hm1, hq', he])).mp hsnap2), hus]
    exact ⟨⟨hfm, hm0, hm1⟩, Or.inr (Or.inr ⟨rfl, hvm, hlow⟩)⟩
  · have hge' : ¬ fge r (qp : F) = true := mt (fle_spec fin_qp hr).mp hge
    rw [abs_of_nonpos (sub_nonpos.mpr (not_le.mp hge).le)] at hsnap
    have hup : val r + val (e10 : F) ≤ val (qp : F) := by linarith only [hsnap]
    rw [if_neg hge']
    exact ⟨⟨hr, h0, hup⟩, Or.inl ⟨rfl, hup⟩⟩

/-- at most a quarter turn is never carried: `c = 1` is the snap -/
theorem normalizeBoundaries_of_le (r : F) (b : Nat) (hr : Fin r) (h0 : 0 ≤ val r) (h1 : val r ≤ val (qp : F)) :
    (normalizeBoundaries ⟨r, b⟩).Inv ∧ ∃ c : ℕ, (c = 0 ∨ c = 1) ∧ (normalizeBoundaries ⟨r, b⟩).blade = b + c ∧
      |val (normalizeBoundaries ⟨r, b⟩).rem + c * val (qp : F) - val r| < val (e10 : F) ∧
      (c = 1 → val (normalizeBoundaries ⟨r, b⟩).rem = 0) := by
  have he := val_e10_pos (F := F)
  obtain ⟨hinv, h | h | h⟩ := normalizeBoundaries_spec r b hr h0
    (by linarith only [h1, val_qp_gt (F := F), val_e10_small (F := F), show (1:ℝ) / 10 ^ 9 ≤ 3 / 2 by norm_num])
  · exact ⟨hinv, 0, Or.inl rfl, by rw [h.1]; rfl, by rw [h.1]; simpa using he, by simp⟩
  · refine ⟨hinv, 1, Or.inr rfl, by rw [h.1], ?_, fun _ => by rw [h.1]; exact val_zero⟩
    rw [h.1, val_zero, zero_add, Nat.cast_one, one_mul, abs_sub_comm]
    exact h.2
  · linarith only [h.2.2, h1, he]

/-! ### comparisons -/

theorem beq_of_val_eq {x y : Angle F} (hx : Fin x.rem) (hy : Fin y.rem) (hb : x.blade = y.blade) (hr : val x.rem = val y.rem) :
    x.beq y = true :=
  (beq_iff x y).mpr ⟨hb, Or.inl (test_of_val_eq hx hy fin_e15 hr val_e15_pos)⟩

theorem beq_self {x : Angle F} (h : Fin x.rem) : x.beq x = true := beq_of_val_eq h h rfl rfl

theorem beq_of_blade_ne {x y : Angle F} (h : x.blade ≠ y.blade) : x.beq y = false :=
  Bool.eq_false_iff.mpr fun hxy => h (beq_blade hxy)

theorem beq_rems {a b : Angle F} (ha : a.Inv) (hb : b.Inv) (h : a.beq b = true) :
    a.blade = b.blade ∧ |val a.rem - val b.rem| < val (e15 : F) := by
  obtain ⟨hbl, ht | he⟩ := (beq_iff a b).mp h
  · exact ⟨hbl, near_of_test ha.1 hb.1 fin_e15 (ha.inRange_sub_rem hb) ht⟩
  · rw [(feq_spec ha.1 hb.1).mp he, sub_self, abs_zero]; exact ⟨hbl, val_e15_pos⟩

theorem beq_symm {x y : Angle F} (hx : Fin x.rem) (hy : Fin y.rem)
    (hr : InRange (F := F) (val x.rem - val y.rem)) : x.beq y = y.beq x := by
  rw [Bool.eq_iff_iff, beq_iff, beq_iff, abs_test_symm hx hy fin_e15 hr, feq_spec hx hy, feq_spec hy hx, eq_comm (a := x.blade),
    eq_comm (a := val x.rem)]

/-- `f64::partial_cmp` on finite values is `compare` on the real values -/
theorem fcmp_eq_compare {x y : F} (hx : Fin x) (hy : Fin y) :
    Angle.fcmp x y = some (compare (val x) (val y)) := by
  unfold Angle.fcmp
  rcases lt_trichotomy (val x) (val y) with h | h | h
  · rw [if_pos ((flt_spec hx hy).mpr h), compare_lt_iff_lt.mpr h]
  · rw [if_neg (by rw [flt_spec hx hy]; exact h.not_lt), if_pos ((feq_spec hx hy).mpr h),
      compare_eq_iff_eq.mpr h]
  · rw [if_neg (by rw [flt_spec hx hy]; exact h.not_gt), if_neg (by rw [feq_spec hx hy]; exact h.ne'),
      if_pos ((flt_spec hy hx).mpr h), compare_gt_iff_gt.mpr h]

end Angle
end GeonumModel
