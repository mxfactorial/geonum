/-
  GeonumModel.Lemmas.SpecBasic — consequences of the contract `FloatSpec` alone: the literals, representable numbers (rounding
  never crosses one, an operation that lands on one is exact), `π_f` and the quarter turn, the size of the rounding error, the
  thresholds `1e-10` and `1e-15`, and one rounded operation with a bound on its result.
-/
import GeonumModel.Spec.FloatSpec
import Mathlib.Analysis.Real.Pi.Bounds
import Mathlib.Tactic

namespace GeonumModel
open FloatLike FloatSpec

variable {F : Type} [FloatSpec F]

theorem fin_nat {n : ℕ} (h : n < 2 ^ 53) : Fin (FloatLike.ofNat n : F) := (ofNat_spec h).1
theorem val_nat {n : ℕ} (h : n < 2 ^ 53) : val (FloatLike.ofNat n : F) = n := (ofNat_spec h).2

theorem fin_zero : Fin (zero : F) := fin_nat (by norm_num)
theorem val_zero : val (zero : F) = 0 := (val_nat (by norm_num)).trans Nat.cast_zero
theorem fin_one : Fin (one : F) := fin_nat (by norm_num)
theorem val_one : val (one : F) = 1 := (val_nat (by norm_num)).trans Nat.cast_one
theorem fin_two : Fin (two : F) := fin_nat (by norm_num)
theorem val_two : val (two : F) = 2 := (val_nat (by norm_num)).trans Nat.cast_ofNat
theorem fin_three : Fin (three : F) := fin_nat (by norm_num)
theorem val_three : val (three : F) = 3 := (val_nat (by norm_num)).trans Nat.cast_ofNat
theorem fin_four : Fin (four : F) := fin_nat (by norm_num)
theorem val_four : val (four : F) = 4 := (val_nat (by norm_num)).trans Nat.cast_ofNat

/-! ### representable numbers and the range -/
theorem rep_zero : Rep (F := F) 0 := by simpa using rep_nat (F := F) (n := 0) (by norm_num)
theorem rep_one : Rep (F := F) 1 := by simpa using rep_nat (F := F) (n := 1) (by norm_num)

theorem rep_ofNat (n : ℕ) [n.AtLeastTwo] (h : n < 2 ^ 53) : Rep (F := F) (OfNat.ofNat n : ℝ) := by
  have h' : Rep (F := F) ((OfNat.ofNat n : ℕ) : ℝ) := rep_nat h
  rwa [Nat.cast_ofNat] at h'

theorem rep_two_pow {k : ℕ} (hk : k < 53) : Rep (F := F) (2 ^ k) := by
  have := rep_nat (F := F) (n := 2 ^ k) (Nat.pow_lt_pow_right (by norm_num) hk)
  rwa [Nat.cast_pow, Nat.cast_ofNat] at this

theorem rep_int {z : ℤ} (h : |z| < 2 ^ 53) : Rep (F := F) (z : ℝ) := by
  obtain ⟨n, rfl | rfl⟩ := Int.eq_nat_or_neg z
  · rw [Nat.abs_cast] at h
    exact_mod_cast rep_nat (F := F) (n := n) (by exact_mod_cast h)
  · rw [abs_neg, Nat.abs_cast] at h
    exact_mod_cast rep_neg (rep_nat (F := F) (n := n) (by exact_mod_cast h))

theorem rep_abs_val {m : F} (hm : Fin m) : Rep (F := F) |val m| := by
  rcases abs_choice (val m) with h | h <;> rw [h]
  exacts [rep_val hm, rep_neg (rep_val hm)]

theorem rep_scale_mid {x y : ℝ} (k : ℤ) (hx : Rep (F := F) x) (e : x * 2 ^ k = y) (h1 : 1 / 4 ≤ |y|) (h2 : |y| ≤ 2 ^ 60) :
    Rep (F := F) y := by
  subst e
  refine rep_scale k hx (le_trans (one_div_le_one_div_of_le (by norm_num) ?_) h1)
    (le_trans h2 (pow_le_pow_right₀ (by norm_num) (by norm_num)))
  calc (4:ℝ) = 2 ^ 2 := by norm_num
    _ ≤ 2 ^ 1000 := pow_le_pow_right₀ (by norm_num) (by norm_num)

theorem inRange_of_abs_le_1000 {x : ℝ} (h : |x| ≤ 1000) : InRange (F := F) x :=
  inRange_of_le (h.trans (by norm_num))

theorem inRange_of_nonneg_le_1000 {x : ℝ} (h0 : 0 ≤ x) (h : x ≤ 1000) : InRange (F := F) x :=
  inRange_of_abs_le_1000 (by rwa [abs_of_nonneg h0])

theorem inRange_of_abs_le_2p60 {x : ℝ} (h : |x| ≤ 2 ^ 60) : InRange (F := F) x :=
  inRange_of_le (h.trans (by norm_num))

theorem inRange_int {z : ℤ} (h : |z| < 2 ^ 53) : InRange (F := F) (z : ℝ) := by
  have : |(z : ℝ)| < 2 ^ 53 := by exact_mod_cast h
  exact inRange_of_abs_le_2p60 (this.le.trans (by norm_num))

theorem rnd_zero : rnd (F := F) 0 = 0 := rnd_rep rep_zero
theorem rnd_val {a : F} (h : Fin a) : rnd (F := F) (val a) = val a := rnd_rep (rep_val h)

/-- rounding never crosses a representable number -/
theorem le_rnd {t x : ℝ} (ht : Rep (F := F) t) (h : t ≤ x) : t ≤ rnd (F := F) x := by
  have := rnd_mono (F := F) h; rwa [rnd_rep ht] at this
theorem rnd_le {t x : ℝ} (ht : Rep (F := F) t) (h : x ≤ t) : rnd (F := F) x ≤ t := by
  have := rnd_mono (F := F) h; rwa [rnd_rep ht] at this

theorem rnd_nonneg {x : ℝ} (h : 0 ≤ x) : 0 ≤ rnd (F := F) x := le_rnd rep_zero h

theorem div_rnd_nonneg {x d : ℝ} (h : 0 ≤ x / d) : 0 ≤ rnd (F := F) x / d :=
  div_nonneg_iff.mpr ((div_nonneg_iff.mp h).imp (And.imp_left rnd_nonneg) (And.imp_left (rnd_le rep_zero)))

theorem abs_rnd_le {x t : ℝ} (ht : Rep (F := F) t) (h : |x| ≤ t) : |rnd (F := F) x| ≤ t :=
  abs_le.mpr ⟨le_rnd (rep_neg ht) (neg_le_of_abs_le h), rnd_le ht (le_of_abs_le h)⟩

theorem abs_rnd_ge {x t : ℝ} (ht : Rep (F := F) t) (h : t ≤ |x|) : t ≤ |rnd (F := F) x| := by
  rcases le_abs.mp h with h | h
  · exact le_abs.mpr (Or.inl (le_rnd ht h))
  · exact le_abs.mpr (Or.inr (le_neg_of_le_neg (rnd_le (rep_neg ht) (le_neg_of_le_neg h))))

theorem fadd_rep {a b : F} {v : ℝ} (ha : Fin a) (hb : Fin b) (hv : val a + val b = v) (hrep : Rep (F := F) v)
    (hr : InRange (F := F) v) : Fin (fadd a b) ∧ val (fadd a b) = v := by
  have := fadd_spec ha hb (hv ▸ hr)
  rwa [hv, rnd_rep hrep] at this

theorem fmul_rep {a b : F} {v : ℝ} (ha : Fin a) (hb : Fin b) (hv : val a * val b = v) (hrep : Rep (F := F) v)
    (hr : InRange (F := F) v) : Fin (fmul a b) ∧ val (fmul a b) = v := by
  have := fmul_spec ha hb (hv ▸ hr)
  rwa [hv, rnd_rep hrep] at this

theorem fdiv_rep {a b : F} {v : ℝ} (ha : Fin a) (hb : Fin b) (hb0 : val b ≠ 0) (hv : val a / val b = v)
    (hrep : Rep (F := F) v) (hr : InRange (F := F) v) : Fin (fdiv a b) ∧ val (fdiv a b) = v := by
  have := fdiv_spec ha hb hb0 (hv ▸ hr)
  rwa [hv, rnd_rep hrep] at this

theorem fadd_int {a b : F} {m n : ℤ} (ha : Fin a) (hb : Fin b) (hm : val a = m) (hn : val b = n)
    (h : |m + n| < 2 ^ 53) : Fin (fadd a b) ∧ val (fadd a b) = ((m + n : ℤ) : ℝ) :=
  fadd_rep ha hb (by rw [hm, hn, Int.cast_add]) (rep_int h) (inRange_int h)

theorem fmul_int {a b : F} {m n : ℤ} (ha : Fin a) (hb : Fin b) (hm : val a = m) (hn : val b = n)
    (h : |m * n| < 2 ^ 53) : Fin (fmul a b) ∧ val (fmul a b) = ((m * n : ℤ) : ℝ) :=
  fmul_rep ha hb (by rw [hm, hn, Int.cast_mul]) (rep_int h) (inRange_int h)

theorem fdiv_one {w : F} (hw : Fin w) : Fin (fdiv w one) ∧ val (fdiv w one) = val w :=
  fdiv_rep hw fin_one (by rw [val_one]; exact one_ne_zero) (by rw [val_one, div_one]) (rep_val hw) (inRange_val hw)

/-! ### `π_f` and the quarter turn -/
theorem fin_pi : Fin (FloatLike.pi : F) := pi_spec.1
theorem val_pi : val (FloatLike.pi : F) = piV F := pi_spec.2

theorem piV_gt3 : (3 : ℝ) < piV F := by
  linarith [piV_ge (F := F), Real.pi_gt_d2, show (2:ℝ) / 10 ^ 16 ≤ 0.14 by norm_num]
theorem piV_lt4 : piV F < (4 : ℝ) := lt_of_le_of_lt piV_le Real.pi_lt_four
theorem piV_pos : 0 < piV F := lt_trans (by norm_num) piV_gt3

theorem rep_piV : Rep (F := F) (piV F) := by
  have := rep_val (F := F) fin_pi; rwa [val_pi] at this

theorem rep_half_piV : Rep (F := F) (piV F / 2) := by
  refine rep_scale_mid (-1) rep_piV (by rw [zpow_neg, zpow_one]; ring) ?_ ?_ <;> rw [abs_of_pos (half_pos piV_pos)]
  · exact le_trans (by norm_num) (div_le_div_of_nonneg_right piV_gt3.le two_pos.le)
  · exact (div_le_div_of_nonneg_right piV_lt4.le two_pos.le).trans (by norm_num)

theorem qp_spec : Fin (qp : F) ∧ val (qp : F) = piV F / 2 := by
  have hp := piV_gt3 (F := F); have hl := piV_lt4 (F := F)
  exact fdiv_rep fin_pi fin_two (by rw [val_two]; norm_num) (by rw [val_pi, val_two]) rep_half_piV
    (inRange_of_nonneg_le_1000 (by linarith) (by linarith))
theorem fin_qp : Fin (qp : F) := qp_spec.1
theorem val_qp : val (qp : F) = piV F / 2 := qp_spec.2
theorem val_qp_gt : (3 : ℝ) / 2 < val (qp : F) := by rw [val_qp]; have := piV_gt3 (F := F); linarith
theorem val_qp_lt : val (qp : F) < (2 : ℝ) := by rw [val_qp]; have := piV_lt4 (F := F); linarith

/-! ### the rounding error -/
theorem tiny_pow {n : ℕ} (h : 1000 ≤ n) : (1 : ℝ) / 2 ^ n ≤ 1 / 10 ^ 300 := by
  apply one_div_le_one_div_of_le (by positivity)
  calc (10:ℝ) ^ 300 = (10 ^ 3) ^ 100 := by rw [← pow_mul]
    _ ≤ (2 ^ 10) ^ 100 := by gcongr; norm_num
    _ = 2 ^ 1000 := by rw [← pow_mul]
    _ ≤ 2 ^ n := pow_le_pow_right₀ (by norm_num) h

theorem tiny_1075_300 : (1 : ℝ) / 2 ^ 1075 ≤ 1 / 10 ^ 300 := tiny_pow (by norm_num)

theorem tiny_1075 : (1 : ℝ) / 2 ^ 1075 ≤ 1 / 10 ^ 30 :=
  tiny_1075_300.trans (one_div_le_one_div_of_le (by positivity) (pow_le_pow_right₀ (by norm_num) (by norm_num)))

theorem two_pow_1070 : (1 : ℝ) / 2 ^ 1070 = 32 * (1 / 2 ^ 1075) := by
  rw [show (1075:ℕ) = 1070 + 5 by norm_num, pow_add]; field_simp; norm_num

theorem e300_e298 : (100:ℝ) * (1 / 10 ^ 300) = 1 / 10 ^ 298 := by
  rw [show (300:ℕ) = 298 + 2 by norm_num, pow_add, ← one_div_mul_one_div]
  generalize (10:ℝ) ^ 298 = t
  ring

theorem rnd_close (x : ℝ) : |rnd (F := F) x - x| ≤ |x| / 2 ^ 53 + 1 / 10 ^ 30 :=
  le_trans (rnd_err x) (add_le_add le_rfl tiny_1075)

theorem rnd_close_of_abs_le {x B : ℝ} (hB : |x| ≤ B) : |rnd (F := F) x - x| ≤ B / 2 ^ 53 + 1 / 10 ^ 30 :=
  le_trans (rnd_close x) (add_le_add (div_le_div_of_nonneg_right hB (by positivity)) le_rfl)

theorem rnd_close_bound {x B : ℝ} (h0 : 0 ≤ x) (hB : x ≤ B) :
    |rnd (F := F) x - x| ≤ B / 2 ^ 53 + 1 / 10 ^ 30 :=
  rnd_close_of_abs_le (by rwa [abs_of_nonneg h0])

theorem rnd_within_tenth {x : ℝ} (hx : 1 / 10 ^ 28 ≤ x) :
    x - x / 10 ≤ rnd (F := F) x ∧ rnd (F := F) x ≤ x + x / 10 := by
  have hx0 : 0 < x := lt_of_lt_of_le (by positivity) hx
  have h := rnd_close (F := F) x
  rw [abs_of_pos hx0] at h
  have h1 : x / 2 ^ 53 ≤ x / 20 := div_le_div_of_nonneg_left hx0.le (by norm_num) (by norm_num)
  have h2 : (1:ℝ) / 10 ^ 30 ≤ x / 20 := le_trans (by norm_num) (div_le_div_of_nonneg_right hx (by norm_num))
  obtain ⟨h3, h4⟩ := abs_le.mp ((h.trans (add_le_add h1 h2)).trans_eq (by ring : x / 20 + x / 20 = x / 10))
  exact ⟨sub_le_iff_le_add.mpr (neg_le_sub_iff_le_add.mp h3), sub_le_iff_le_add'.mp h4⟩

/-- crude, but enough for every range argument -/
theorem abs_rnd_le_two_mul (x : ℝ) : |rnd (F := F) x| ≤ 2 * |x| + 1 := by
  have h := rnd_close (F := F) x
  have h1 : |x| / 2 ^ 53 ≤ |x| := by
    apply div_le_self (abs_nonneg x); norm_num
  have h2 : (1:ℝ) / 10 ^ 30 ≤ 1 := by rw [div_le_one (by positivity)]; norm_num
  have := abs_sub_abs_le_abs_sub (rnd (F := F) x) x
  linarith

/-! ### the thresholds `1e-10` and `1e-15` -/
theorem e10_spec : Fin (e10 : F) ∧ val (e10 : F) = rnd (F := F) (1 / 10 ^ 10) := by
  have := ofSci_spec (F := F) (m := 1) (e := 10) (by norm_num) (by norm_num)
  simpa [e10] using this
theorem e15_spec : Fin (e15 : F) ∧ val (e15 : F) = rnd (F := F) (1 / 10 ^ 15) := by
  have := ofSci_spec (F := F) (m := 1) (e := 15) (by norm_num) (by norm_num)
  simpa [e15] using this
theorem fin_e10 : Fin (e10 : F) := e10_spec.1
theorem fin_e15 : Fin (e15 : F) := e15_spec.1

theorem val_e10_bounds : (9 : ℝ) / 10 ^ 11 ≤ val (e10 : F) ∧ val (e10 : F) ≤ 11 / 10 ^ 11 := by
  have h := rnd_within_tenth (F := F) (x := 1 / 10 ^ 10) (by norm_num)
  rw [e10_spec.2]
  exact ⟨le_trans (by norm_num) h.1, h.2.trans (by norm_num)⟩
theorem val_e15_bounds : (9 : ℝ) / 10 ^ 16 ≤ val (e15 : F) ∧ val (e15 : F) ≤ 11 / 10 ^ 16 := by
  have h := rnd_within_tenth (F := F) (x := 1 / 10 ^ 15) (by norm_num)
  rw [e15_spec.2]
  exact ⟨le_trans (by norm_num) h.1, h.2.trans (by norm_num)⟩
theorem val_e10_pos : 0 < val (e10 : F) := lt_of_lt_of_le (by positivity) (val_e10_bounds (F := F)).1
theorem val_e15_pos : 0 < val (e15 : F) := lt_of_lt_of_le (by positivity) (val_e15_bounds (F := F)).1
theorem val_e15_lt_e10 : val (e15 : F) < val (e10 : F) :=
  lt_of_le_of_lt (val_e15_bounds (F := F)).2 (lt_of_lt_of_le (by norm_num) (val_e10_bounds (F := F)).1)
theorem val_e10_small : val (e10 : F) ≤ 1 / 10 ^ 9 := le_trans (val_e10_bounds (F := F)).2 (by norm_num)

/-! ### one rounded operation, with a bound on its result -/
theorem op_nonneg_bd {y : F} {x B : ℝ} (h : Fin y ∧ val y = rnd (F := F) x) (h0 : 0 ≤ x) (hB : x ≤ B) (hrep : Rep (F := F) B) :
    Fin y ∧ 0 ≤ val y ∧ val y ≤ B ∧ |val y - x| ≤ B / 2 ^ 53 + 1 / 10 ^ 30 :=
  ⟨h.1, h.2 ▸ rnd_nonneg h0, h.2 ▸ rnd_le hrep hB, h.2 ▸ rnd_close_bound h0 hB⟩

theorem op_bd {z : F} {e B : ℝ} (hs : InRange (F := F) e → Fin z ∧ val z = rnd (F := F) e) (h : |e| ≤ B) (hB : B ≤ 10 ^ 250) :
    Fin z ∧ val z = rnd (F := F) e ∧ |val z| ≤ 2 * B + 1 := by
  obtain ⟨hf, hv⟩ := hs (inRange_of_le (h.trans hB))
  exact ⟨hf, hv, by rw [hv]; linarith [abs_rnd_le_two_mul (F := F) e]⟩

theorem fadd_bd {x y : F} {X Y : ℝ} (hx : Fin x) (hy : Fin y) (hX : |val x| ≤ X) (hY : |val y| ≤ Y) (hXY : X + Y ≤ 10 ^ 250) :
    Fin (fadd x y) ∧ val (fadd x y) = rnd (F := F) (val x + val y) ∧ |val (fadd x y)| ≤ 2 * (X + Y) + 1 :=
  op_bd (fadd_spec hx hy) ((abs_add_le _ _).trans (add_le_add hX hY)) hXY

theorem fsub_bd {x y : F} {X Y : ℝ} (hx : Fin x) (hy : Fin y) (hX : |val x| ≤ X) (hY : |val y| ≤ Y) (hXY : X + Y ≤ 10 ^ 250) :
    Fin (fsub x y) ∧ val (fsub x y) = rnd (F := F) (val x - val y) ∧ |val (fsub x y)| ≤ 2 * (X + Y) + 1 :=
  op_bd (fsub_spec hx hy) ((abs_sub _ _).trans (add_le_add hX hY)) hXY

theorem fmul_bd {x y : F} {X Y : ℝ} (hx : Fin x) (hy : Fin y) (hX : |val x| ≤ X) (hY : |val y| ≤ Y) (hXY : X * Y ≤ 10 ^ 250) :
    Fin (fmul x y) ∧ val (fmul x y) = rnd (F := F) (val x * val y) ∧ |val (fmul x y)| ≤ 2 * (X * Y) + 1 :=
  op_bd (fmul_spec hx hy) ((abs_mul _ _).le.trans (mul_le_mul hX hY (abs_nonneg _) ((abs_nonneg _).trans hX))) hXY

/-- no range hypothesis: a factor of size at most 1 cannot take a product out of range -/
theorem fmul_unit {m c : F} (hm : Fin m) (hc : Fin c) (hc1 : |val c| ≤ 1) :
    Fin (fmul m c) ∧ val (fmul m c) = rnd (F := F) (val m * val c) ∧ |val (fmul m c)| ≤ |val m| := by
  have hle : |val m * val c| ≤ |val m| := by rw [abs_mul]; exact mul_le_of_le_one_right (abs_nonneg _) hc1
  obtain ⟨hf, hv⟩ := fmul_spec hm hc (inRange_mono hle (inRange_val hm))
  exact ⟨hf, hv, hv ▸ abs_rnd_le (rep_abs_val hm) hle⟩

theorem fmul_unit_nonneg {m c : F} (hm : Fin m) (hc : Fin c) (hm0 : 0 ≤ val m) (hc0 : 0 ≤ val c) (hc1 : val c ≤ 1) :
    Fin (fmul m c) ∧ 0 ≤ val (fmul m c) ∧ val (fmul m c) ≤ val m := by
  obtain ⟨hf, hv, _⟩ := fmul_unit hm hc (by rwa [abs_of_nonneg hc0])
  exact ⟨hf, hv ▸ rnd_nonneg (mul_nonneg hm0 hc0), hv ▸ rnd_le (rep_val hm) (mul_le_of_le_one_right hm0 hc1)⟩

theorem fdiv_two {w : F} (hw : Fin w) : Fin (fdiv w two) ∧ val (fdiv w two) = rnd (F := F) (val w / 2) := by
  have h := fdiv_spec hw (fin_two (F := F)) (by rw [val_two]; norm_num) (by
    rw [val_two]; exact inRange_mono (by rw [abs_div, abs_two]; linarith [abs_nonneg (val w)]) (inRange_val hw))
  rwa [val_two] at h

end GeonumModel
