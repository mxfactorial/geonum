/-
  GeonumModel.Lemmas.GradeAngle — `grade_angle` in rounded arithmetic (S-tier): finite, within 4e-15 of
  `(blade mod 4)·(π/2) + rem`, and inside `[0, 2π)`.
-/
import GeonumModel.Lemmas.AngleInv

namespace GeonumModel
open FloatLike FloatSpec
variable {F : Type} [FloatSpec F]
namespace Angle

theorem gradeAngle_spec {a : Angle F} (ha : a.Inv) :
    Fin a.gradeAngle ∧
    |val a.gradeAngle - ((a.grade : ℝ) * val (qp : F) + val a.rem)| ≤ 4 / 10 ^ 15 ∧
    0 ≤ val a.gradeAngle ∧ val a.gradeAngle < 4 * val (qp : F) := by
  obtain ⟨har, ha0, ha1⟩ := ha
  have hg3 : a.grade ≤ 3 := by unfold grade; omega
  have hgr : (a.grade : ℝ) ≤ 3 := by exact_mod_cast hg3
  have hg53 : a.grade < 2 ^ 53 := lt_of_le_of_lt hg3 (by norm_num)
  have hq' := val_qp_lt (F := F); have he := val_e10_pos (F := F)
  -- three rounded operations, each on a non-negative exact value below a small whole number: g·π ≤ 12, (·)/2 ≤ 6, (·) + rem ≤ 8
  have hx0 : 0 ≤ (a.grade : ℝ) * piV F := mul_nonneg (Nat.cast_nonneg _) piV_pos.le
  have hx1 : (a.grade : ℝ) * piV F ≤ 12 := (mul_le_mul hgr piV_lt4.le piV_pos.le (by norm_num)).trans_eq (by norm_num)
  have h1 := fmul_spec (fin_nat (F := F) hg53) (fin_pi (F := F))
    (by rw [val_nat hg53, val_pi]; exact inRange_of_nonneg_le_1000 hx0 (hx1.trans (by norm_num)))
  rw [val_nat hg53, val_pi] at h1
  unfold gradeAngle
  generalize fmul (FloatLike.ofNat a.grade : F) pi = y₁ at h1 ⊢
  obtain ⟨hf1, hy0, hy1, hc1⟩ := op_nonneg_bd h1 hx0 hx1 (rep_ofNat 12 (by norm_num))
  have h2 := fdiv_two hf1
  generalize fdiv y₁ two = y₂ at h2 ⊢
  obtain ⟨hf2, hz0, hz1, hc2⟩ := op_nonneg_bd h2 (div_nonneg hy0 two_pos.le) (show _ ≤ (6:ℝ) by linarith only [hy1])
    (rep_ofNat 6 (by norm_num))
  have hs0 := add_nonneg hz0 ha0
  have hs1 : val y₂ + val a.rem ≤ 8 := by linarith only [hz1, ha1, hq', he]
  have h3 := fadd_spec hf2 har (inRange_of_nonneg_le_1000 hs0 (hs1.trans (by norm_num)))
  generalize fadd y₂ a.rem = y₃ at h3 ⊢
  obtain ⟨hf3, hw0, -, hc3⟩ := op_nonneg_bd h3 hs0 hs1 (rep_ofNat 8 (by norm_num))
  have herr : |val y₃ - ((a.grade : ℝ) * val (qp : F) + val a.rem)| ≤ 4 / 10 ^ 15 := by
    rw [show val y₃ - ((a.grade : ℝ) * val (qp : F) + val a.rem) =
      (val y₃ - (val y₂ + val a.rem)) + (val y₂ - val y₁ / 2) + (val y₁ - (a.grade : ℝ) * piV F) / 2 by rw [val_qp]; ring]
    calc _ ≤ _ + _ + _ := abs_add_three _ _ _
      _ ≤ (8 / 2 ^ 53 + 1 / 10 ^ 30) + (6 / 2 ^ 53 + 1 / 10 ^ 30) + (12 / 2 ^ 53 + 1 / 10 ^ 30) / 2 :=
        add_le_add_three hc3 hc2 (by rw [abs_div, abs_two]; exact div_le_div_of_nonneg_right hc1 two_pos.le)
      _ ≤ 4 / 10 ^ 15 := by norm_num
  refine ⟨hf3, herr, hw0, ?_⟩
  have hgq : (a.grade : ℝ) * val (qp : F) ≤ 3 * val (qp : F) :=
    mul_le_mul_of_nonneg_right hgr (le_trans (by norm_num) val_qp_gt.le)
  linarith only [(abs_le.mp herr).2, hgq, ha1, (val_e10_bounds (F := F)).1, show (4:ℝ) / 10 ^ 15 < 9 / 10 ^ 11 by norm_num]

theorem gradeAngle_fin {a : Angle F} (ha : a.Inv) : Fin a.gradeAngle := (gradeAngle_spec ha).1

theorem gradeAngle_sub_fin {a b : Angle F} (ha : a.Inv) (hb : b.Inv) :
    Fin (fsub b.gradeAngle a.gradeAngle) := by
  obtain ⟨hfa, _, ha0, ha1⟩ := gradeAngle_spec ha
  obtain ⟨hfb, _, hb0, hb1⟩ := gradeAngle_spec hb
  exact (fsub_spec hfb hfa (inRange_of_abs_le_1000 ((abs_sub_le_of_nonneg_of_le hb0 hb1.le ha0 ha1.le).trans
    ((mul_le_mul_of_nonneg_left val_qp_lt.le (by norm_num)).trans (by norm_num))))).1

end Angle
end GeonumModel
