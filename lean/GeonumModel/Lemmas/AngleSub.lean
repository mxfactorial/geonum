/-
  GeonumModel.Lemmas.AngleSub — `geometric_sub` on invariant-satisfying angles (S-tier).
-/
import GeonumModel.Lemmas.AngleInv

namespace GeonumModel
open FloatLike FloatSpec

variable {F : Type} [FloatSpec F]

namespace Angle

theorem two_roundings_and_snap {x d₁ d₂ d₃ u e t : ℝ} (hx : x = d₁ + d₂ + d₃) (h1 : |d₁| ≤ u) (h2 : |d₂| ≤ u)
    (h3 : |d₃| < e) (hu : 2 * u < t) : |x| < e + t := by
  rw [hx]
  have := abs_add_three d₁ d₂ d₃
  linarith

/-- one angle subtraction: `s` is the borrow (`-1` only if the remainder difference is negative), `c` the snap of the final
    normalisation -/
theorem geometricSub_spec {a b : Angle F} (ha : a.Inv) (hb : b.Inv) :
    (a.geometricSub b).Inv ∧
    ∃ (s : ℤ) (c : ℕ), (s = 0 ∨ s = -1) ∧ (c = 0 ∨ c = 1) ∧
      (a.geometricSub b).blade = wrap4 ((a.blade : ℤ) - (b.blade : ℤ) + s) + c ∧
      |val (a.geometricSub b).rem + ((c : ℝ) + (s : ℝ)) * val (qp : F) - (val a.rem - val b.rem)|
          < val (e10 : F) + 1 / 10 ^ 15 ∧
      (c = 1 → val (a.geometricSub b).rem = 0) ∧
      (s = -1 → val a.rem < val b.rem) := by
  have hx := ha.abs_sub_rem_le hb
  have hxr := ha.inRange_sub_rem hb
  obtain ⟨har, ha0, ha1⟩ := ha
  obtain ⟨hbr, hb0, hb1⟩ := hb
  have hq' := val_qp_lt (F := F); have he := val_e10_pos (F := F)
  obtain ⟨hfd, hvd⟩ := fsub_spec har hbr hxr
  -- `d = rnd (rem a − rem b)` is within `u = 2·2⁻⁵³ + 10⁻³⁰` of the difference and between `−rem b` and `rem a`
  obtain ⟨u, hu, hu15⟩ : ∃ u : ℝ, 2 / 2 ^ 53 + 1 / 10 ^ 30 = u ∧ 2 * u < 1 / 10 ^ 15 := ⟨_, rfl, by norm_num⟩
  have hderr := rnd_close_of_abs_le (F := F) hx
  have hdlo : -val b.rem ≤ rnd (F := F) (val a.rem - val b.rem) :=
    le_rnd (rep_neg (rep_val hbr)) (zero_sub (val b.rem) ▸ sub_le_sub_right ha0 _)
  have hdhi : rnd (F := F) (val a.rem - val b.rem) ≤ val a.rem := rnd_le (rep_val har) (sub_le_self _ hb0)
  rw [← hvd] at hderr hdlo hdhi
  rw [hu] at hderr
  have hu0 : |(0:ℝ)| ≤ u := abs_zero.trans_le ((abs_nonneg _).trans hderr)
  have htest := fun h => (near_of_test har hbr fin_e15 hxr h).trans val_e15_lt_e10
  unfold geometricSub
  simp only
  generalize fsub a.rem b.rem = d at hfd hvd hderr hdlo hdhi htest ⊢
  have hflt : flt d zero = true ↔ val d < 0 := by rw [flt_spec hfd fin_zero, val_zero]
  split_ifs with h15 hneg
  · -- equal-remainder shortcut
    have h15' := htest h15
    refine ⟨inv_zero _, 0, 0, Or.inl rfl, Or.inl rfl, by simp, ?_, by simp, by simp⟩
    rw [← abs_neg] at h15'
    exact two_roundings_and_snap (by rw [val_zero]; push_cast; ring) hu0 hu0 h15' hu15
  · -- borrow: `d < 0`, so `i = rnd (d + π/2) ∈ [0, π/2]`
    have hneg' := hflt.mp hneg
    have hlt : val a.rem < val b.rem := by
      by_contra hcon
      exact absurd (hvd ▸ rnd_nonneg (F := F) (sub_nonneg.mpr (not_lt.mp hcon))) (not_le.mpr hneg')
    have hsum0 : 0 ≤ val d + val (qp : F) := by linarith only [hdlo, hb1, he]
    have hsumq : val d + val (qp : F) ≤ val (qp : F) := add_le_of_nonpos_left hneg'.le
    obtain ⟨hfi, hi0, hi1, hci⟩ := op_nonneg_bd
      (fadd_spec hfd fin_qp (inRange_of_nonneg_le_1000 hsum0 (hsumq.trans (hq'.le.trans (by norm_num))))) hsum0 hsumq
      (rep_val fin_qp)
    replace hci := (hci.trans (add_le_add (div_le_div_of_nonneg_right hq'.le (by positivity)) le_rfl)).trans_eq hu
    generalize fadd d (qp : F) = i at hfi hi0 hi1 hci ⊢
    obtain ⟨hinv, c, hc, hbl, hsnap, hz⟩ := normalizeBoundaries_of_le i (wrap4 ((a.blade : ℤ) - (b.blade : ℤ) - 1)) hfi hi0 hi1
    exact ⟨hinv, -1, c, Or.inr rfl, hc, hbl, two_roundings_and_snap (by push_cast; ring) hci hderr hsnap hu15, hz,
      fun _ => hlt⟩
  · -- no borrow
    have hnn : 0 ≤ val d := not_lt.mp (mt hflt.mpr hneg)
    obtain ⟨hinv, c, hc, hbl, hsnap, hz⟩ := normalizeBoundaries_of_le d (wrap4 ((a.blade : ℤ) - (b.blade : ℤ))) hfd hnn
      (by linarith only [hdhi, ha1, he])
    exact ⟨hinv, 0, c, Or.inl rfl, hc, by rw [hbl, add_zero], two_roundings_and_snap (by push_cast; ring) hu0 hderr hsnap hu15,
      hz, by simp⟩

theorem geometricSub_inv {a b : Angle F} (ha : a.Inv) (hb : b.Inv) : (a.geometricSub b).Inv :=
  (geometricSub_spec ha hb).1

end Angle
end GeonumModel
