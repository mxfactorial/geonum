/-
  GeonumModel.Lemmas.GeonumMag — magnitudes of the property domain `MagDom` (finite, `0 ≤ m ≤ 1e100`) through `Add for Geonum` and
  `distance_to`: products, the value chain of the law-of-cosines radicand, the clamped root (fix 05011a7), `Geonum::scalar`, and the
  magnitude of every branch of `+` finite and non-negative (`add_mag_ok`).
-/
import GeonumModel.Lemmas.AngleStep
import GeonumModel.Lemmas.GeonumAdd

namespace GeonumModel
open FloatLike FloatSpec
variable {F : Type} [FloatSpec F]

theorem mul_dom_val {x y : F} (hx : Fin x) (hy : Fin y) (hx0 : 0 ≤ val x) (hy0 : 0 ≤ val y)
    (hx1 : val x ≤ 10 ^ 100) (hy1 : val y ≤ 10 ^ 100) :
    Fin (fmul x y) ∧ val (fmul x y) = rnd (F := F) (val x * val y) ∧ 0 ≤ val (fmul x y) ∧ val (fmul x y) ≤ 10 ^ 201 := by
  obtain ⟨hf, hv, hb⟩ := fmul_bd hx hy ((abs_of_nonneg hx0).trans_le hx1) ((abs_of_nonneg hy0).trans_le hy1) (by norm_num)
  exact ⟨hf, hv, hv ▸ rnd_nonneg (mul_nonneg hx0 hy0), (le_abs_self _).trans (hb.trans (by norm_num))⟩

theorem mul_dom {x y : F} (hx : Fin x) (hy : Fin y) (hx0 : 0 ≤ val x) (hy0 : 0 ≤ val y)
    (hx1 : val x ≤ 10 ^ 100) (hy1 : val y ≤ 10 ^ 100) :
    Fin (fmul x y) ∧ 0 ≤ val (fmul x y) ∧ val (fmul x y) ≤ 10 ^ 201 :=
  have h := mul_dom_val hx hy hx0 hy0 hx1 hy1
  ⟨h.1, h.2.2⟩

namespace Geonum

/-- the magnitudes the properties quantify over -/
def MagDom (g : Geonum F) : Prop := Fin g.mag ∧ 0 ≤ val g.mag ∧ val g.mag ≤ 10 ^ 100

theorem MagDom.abs_le {g : Geonum F} (h : g.MagDom) : |val g.mag| ≤ 10 ^ 100 := (abs_of_nonneg h.2.1).trans_le h.2.2

/-- the two summands that the law-of-cosines radicands of `+` and of `distance_to` share (they differ in the cosine's argument `x` and
    in the sign between the summands) -/
theorem radicand_parts {a b : Geonum F} (ha : a.MagDom) (hb : b.MagDom) {x : F} (hx : Fin x) :
    Fin (fadd (fmul a.mag a.mag) (fmul b.mag b.mag)) ∧ Fin (fmul (fmul (fmul two a.mag) b.mag) (FloatLike.cos x)) ∧
    val (fadd (fmul a.mag a.mag) (fmul b.mag b.mag))
      = rnd (F := F) (rnd (F := F) (val a.mag * val a.mag) + rnd (F := F) (val b.mag * val b.mag)) ∧
    val (fmul (fmul (fmul two a.mag) b.mag) (FloatLike.cos x))
      = rnd (F := F) (rnd (F := F) (rnd (F := F) (2 * val a.mag) * val b.mag) * val (FloatLike.cos x)) ∧
    |val (fadd (fmul a.mag a.mag) (fmul b.mag b.mag))| ≤ 10 ^ 202 ∧
    |val (fmul (fmul (fmul two a.mag) b.mag) (FloatLike.cos x))| ≤ 10 ^ 202 := by
  obtain ⟨haa, hvaa, haa1⟩ := fmul_bd ha.1 ha.1 ha.abs_le ha.abs_le (by norm_num)
  obtain ⟨hbb, hvbb, hbb1⟩ := fmul_bd hb.1 hb.1 hb.abs_le hb.abs_le (by norm_num)
  obtain ⟨hs, hvs, hs1⟩ := fadd_bd haa hbb haa1 hbb1 (by norm_num)
  obtain ⟨h2a, hv2a, h2a1⟩ := fmul_bd (fin_two (F := F)) ha.1 (le_of_eq (by rw [val_two]; norm_num : |val (two : F)| = 2)) ha.abs_le
    (by norm_num)
  obtain ⟨h2ab, hv2ab, h2ab1⟩ := fmul_bd h2a hb.1 h2a1 hb.abs_le (by norm_num)
  obtain ⟨hfc, hc1, _⟩ := cos_spec hx
  obtain ⟨hp, hvp, hp1⟩ := fmul_bd h2ab hfc h2ab1 hc1 (by norm_num)
  rw [hvaa, hvbb] at hvs
  rw [hv2ab, hv2a, val_two] at hvp
  exact ⟨hs, hp, hvs, hvp, le_trans hs1 (by norm_num), le_trans hp1 (by norm_num)⟩

theorem radicand_val {a b : Geonum F} (ha : a.MagDom) (hb : b.MagDom)
    (hg : Fin (fsub b.angle.gradeAngle a.angle.gradeAngle)) :
    Fin (radicand a b) ∧ val (radicand a b) = rnd (F := F)
      (rnd (F := F) (rnd (F := F) (val a.mag * val a.mag) + rnd (F := F) (val b.mag * val b.mag))
        + rnd (F := F) (rnd (F := F) (rnd (F := F) (2 * val a.mag) * val b.mag)
            * val (FloatLike.cos (fsub b.angle.gradeAngle a.angle.gradeAngle)))) := by
  obtain ⟨hs, hp, hvs, hvp, hs1, hp1⟩ := radicand_parts ha hb hg
  obtain ⟨hf, hv, _⟩ := fadd_bd hs hp hs1 hp1 (by norm_num)
  exact ⟨hf, by rw [← hvs, ← hvp]; exact hv⟩

/-- the root of a radicand clamped at zero (fix 05011a7) -/
theorem sqrt_clamp {r : F} (hr : Fin r) :
    Fin (sqrt (fmax r zero)) ∧ val (sqrt (fmax r zero)) = rnd (F := F) (Real.sqrt (max (val r) 0)) := by
  obtain ⟨hfm, hvm⟩ := fmax_spec hr (fin_zero (F := F))
  rw [val_zero] at hvm
  exact hvm ▸ sqrt_spec hfm (hvm ▸ le_max_right _ _)

open Angle in
/-- `Geonum::scalar`: magnitude `|v|`, at angle 0 for a non-negative value (including `±0`) and at a half turn for a negative one -/
theorem scalar_spec {v : F} (hv : Fin v) :
    Fin (scalar v).mag ∧ val (scalar v).mag = |val v| ∧
    (0 ≤ val v → (scalar v).angle ≈ₐ ⟨zero, 0⟩) ∧ (val v < 0 → (scalar v).angle ≈ₐ ⟨zero, 2⟩) := by
  have hge : fge v (zero : F) = true ↔ 0 ≤ val v := by rw [← val_zero (F := F)]; exact fle_spec fin_zero hv
  refine ⟨(fabs_spec hv).1, (fabs_spec hv).2, fun h => ?_, fun h => ?_⟩
  · have e : (scalar v).angle = Angle.new zero one := if_pos (hge.mpr h)
    exact e ▸ new_zero_one
  · have e : (scalar v).angle = Angle.new one one := if_neg (mt hge.mp (not_le.mpr h))
    exact e ▸ new_one_one

/-- the shape in which `distance_to` returns its result; `scalar`'s `abs` does nothing to a root -/
theorem scalar_sqrt_clamp {d : F} (hd : Fin d) :
    Fin (scalar (sqrt (fmax d zero))).mag ∧
    val (scalar (sqrt (fmax d zero))).mag = rnd (F := F) (Real.sqrt (max (val d) 0)) ∧
    (scalar (sqrt (fmax d zero))).angle.blade = 0 ∧ val (scalar (sqrt (fmax d zero))).angle.rem = 0 := by
  obtain ⟨hfs, hvs⟩ := sqrt_clamp hd
  have h0 : 0 ≤ val (sqrt (fmax d zero)) := hvs ▸ rnd_nonneg (Real.sqrt_nonneg _)
  obtain ⟨hf, hm, hz, _⟩ := scalar_spec hfs
  exact ⟨hf, hm.trans ((abs_of_nonneg h0).trans hvs), (hz h0).whole.1, (hz h0).whole.2.2⟩

/-- `a − a` takes the cancelling opposite branch -/
theorem sub_self_eq {a : Geonum F} (hm : Fin a.mag) (ha : a.angle.Inv) :
    a.sub a = ⟨zero, Angle.newWithBlade (a.angle.blade + a.negate.angle.blade) zero one⟩ := by
  have n := Angle.negate_spec ha
  have h1 : sameAngle a a.negate = false := Angle.beq_of_blade_ne (by
    show a.angle.blade ≠ a.angle.negate.blade; rw [n.1]; omega)
  have h2 : oppositeAngle a a.negate = true := by
    unfold oppositeAngle
    rw [show (a.angle.add (Angle.new one one)).beq a.negate.angle = true from Angle.beq_self n.2.1, Bool.true_or]
  exact add_opposite_cancel a a.negate h1 h2 (test_of_val_eq hm hm fin_e10 rfl val_e10_pos)

/-- (S, C01/C06) every branch of `+` returns a finite, non-negative (never NaN) magnitude; the general branch relies on the clamp of
    fix 05011a7 -/
theorem add_mag_ok {a b : Geonum F} (ha : a.MagDom) (hb : b.MagDom)
    (hg : Fin (fsub b.angle.gradeAngle a.angle.gradeAngle)) :
    Fin (a.add b).mag ∧ 0 ≤ val (a.add b).mag := by
  obtain ⟨hfd, _⟩ := fsub_bd ha.1 hb.1 ha.abs_le hb.abs_le (by norm_num)
  refine add_cases a b (fun _ => ?_) (fun _ _ _ => ⟨fin_zero, le_of_eq val_zero.symm⟩) (fun _ _ _ h4 => ⟨hfd, ?_⟩)
    (fun _ _ _ h4 => ?_) (fun _ _ => ?_)
  · obtain ⟨hf, hv, _⟩ := fadd_bd ha.1 hb.1 ha.abs_le hb.abs_le (by norm_num)
    exact ⟨hf, by rw [hv]; exact rnd_nonneg (add_nonneg ha.2.1 hb.2.1)⟩
  · have := (flt_spec fin_zero hfd).mp h4
    rw [val_zero] at this
    exact le_of_lt this
  · obtain ⟨hfn, hvn⟩ := fneg_spec hfd
    refine ⟨hfn, ?_⟩
    rw [hvn, neg_nonneg]
    by_contra hc
    rw [(flt_spec fin_zero hfd).mpr (by rw [val_zero]; exact not_le.mp hc)] at h4
    cases h4
  · obtain ⟨hfs, hvs⟩ := sqrt_clamp (radicand_val ha hb hg).1
    exact ⟨hfs, hvs ▸ rnd_nonneg (Real.sqrt_nonneg _)⟩

end Geonum
end GeonumModel
