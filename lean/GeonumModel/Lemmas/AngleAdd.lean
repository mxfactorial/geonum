/-
  GeonumModel.Lemmas.AngleAdd — `geometric_add` on invariant-satisfying angles (S-tier).

  One case analysis (`geometricAdd_cases`) says what the three tests of `geometric_add` and the normalisation do to the rounded
  sum `rnd (rem a + rem b)`; everything else about a sum is a corollary of it and of `rnd_rems_close`.
-/
import GeonumModel.Lemmas.AngleInv

namespace GeonumModel
open FloatLike FloatSpec

variable {F : Type} [FloatSpec F]

namespace Angle

/-- the rounding error of one addition of two remainders: `4·2⁻⁵³ + 10⁻³⁰ < 10⁻¹⁵` -/
theorem rnd_rems_close {x : ℝ} (h0 : 0 ≤ x) (h4 : x ≤ 4) : |rnd (F := F) x - x| < 1 / 10 ^ 15 :=
  lt_of_le_of_lt (rnd_close_bound h0 h4) (by norm_num)

theorem geometricAdd_comm {a b : Angle F} (ha : Fin a.rem) (hb : Fin b.rem) :
    a.geometricAdd b = b.geometricAdd a :=
  geometricAdd_comm_of_fadd_comm a b (fadd_comm ha hb)

/-- what an angle addition does, in terms of the rounded sum `t = rnd (rem a + rem b)` of the remainders: it carries
    `k ≤ 1` blades, and the remainder is `t − k·π/2` — or, when `t` is within `1e-10` of a quarter turn, snapped to `0` with a carry -/
theorem geometricAdd_cases {a b : Angle F} (ha : a.Inv) (hb : b.Inv) :
    (a.geometricAdd b).Inv ∧ ∃ k : ℕ, k ≤ 1 ∧ (a.geometricAdd b).blade = a.blade + b.blade + k ∧
      ( val (a.geometricAdd b).rem = rnd (F := F) (val a.rem + val b.rem) - k * val (qp : F) ∨
        (k = 1 ∧ val (a.geometricAdd b).rem = 0 ∧ |rnd (F := F) (val a.rem + val b.rem) - val (qp : F)| < val (e10 : F)) ) := by
  have hq' := val_qp_lt (F := F); have he := val_e10_pos (F := F)
  have hsum0 : 0 ≤ val a.rem + val b.rem := add_nonneg ha.2.1 hb.2.1
  have hsum4 : val a.rem + val b.rem ≤ 4 := by linarith only [ha.2.2, hb.2.2, hq', he]
  obtain ⟨hft, hvt⟩ := fadd_spec ha.1 hb.1 (inRange_of_nonneg_le_1000 hsum0 (hsum4.trans (by norm_num)))
  have hc := (abs_lt.mp (rnd_rems_close (F := F) hsum0 hsum4)).2
  unfold geometricAdd
  simp only
  rw [← hvt] at hc ⊢
  generalize fadd a.rem b.rem = t at hft hvt hc ⊢
  have ht0 : 0 ≤ val t := hvt ▸ rnd_nonneg hsum0
  have ht1 : val t + val (e10 : F) ≤ 2 * val (qp : F) := by
    linarith only [hc, ha.2.2, hb.2.2, (val_e10_bounds (F := F)).1, show (1:ℝ) / 10 ^ 15 ≤ 9 / 10 ^ 11 by norm_num]
  have k0 : val t = val t - ((0 : ℕ) : ℝ) * val (qp : F) := by rw [Nat.cast_zero, zero_mul, sub_zero]
  split_ifs with hz h15
  · exact ⟨inv_zero _, 0, zero_le_one, rfl, Or.inl (by rw [← k0, (feq_spec hft fin_zero).mp hz])⟩
  · have hn := near_of_test hft fin_qp fin_e15 (inRange_sub_qp ht0 (by linarith only [ht1, hq', he])) h15
    exact ⟨inv_zero _, 1, le_rfl, rfl, Or.inr ⟨rfl, val_zero, hn.trans val_e15_lt_e10⟩⟩
  · obtain ⟨hinv, h | h | h⟩ := normalizeBoundaries_spec t (a.blade + b.blade) hft ht0 ht1
    · exact ⟨hinv, 0, zero_le_one, by rw [h.1]; rfl, Or.inl (by rw [h.1]; exact k0)⟩
    · exact ⟨hinv, 1, le_rfl, by rw [h.1], Or.inr ⟨rfl, by rw [h.1]; exact val_zero, h.2⟩⟩
    · exact ⟨hinv, 1, le_rfl, h.1, Or.inl (by rw [h.2.1, Nat.cast_one, one_mul])⟩

theorem geometricAdd_inv {a b : Angle F} (ha : a.Inv) (hb : b.Inv) : (a.geometricAdd b).Inv :=
  (geometricAdd_cases ha hb).1

theorem geometricAdd_carry {a b : Angle F} (ha : a.Inv) (hb : b.Inv) :
    ∃ k : ℕ, k ≤ 1 ∧ (a.geometricAdd b).blade = a.blade + b.blade + k := by
  obtain ⟨_, k, hk, h, _⟩ := geometricAdd_cases ha hb
  exact ⟨k, hk, h⟩

theorem geometricAdd_blade {a b : Angle F} (ha : a.Inv) (hb : b.Inv) :
    (a.geometricAdd b).blade = a.blade + b.blade ∨ (a.geometricAdd b).blade = a.blade + b.blade + 1 := by
  obtain ⟨k, hk, h⟩ := geometricAdd_carry ha hb
  interval_cases k
  exacts [Or.inl h, Or.inr h]

/-- the total of a sum is the sum of the totals, to within the `1e-10` snap plus the rounding of one addition (`< 1e-15`);
    and unless the sum snapped (then its remainder has value 0) the snap term is absent -/
theorem geometricAdd_total {a b : Angle F} (ha : a.Inv) (hb : b.Inv) :
    |Tq (a.geometricAdd b) - (Tq a + Tq b)| < val (e10 : F) + 1 / 10 ^ 15 ∧
    (val (a.geometricAdd b).rem = 0 ∨ |Tq (a.geometricAdd b) - (Tq a + Tq b)| < 1 / 10 ^ 15) := by
  have he := val_e10_pos (F := F)
  have hc := rnd_rems_close (F := F) (add_nonneg ha.2.1 hb.2.1) (x := val a.rem + val b.rem)
    (by linarith only [ha.2.2, hb.2.2, val_qp_lt (F := F), he])
  obtain ⟨_, k, _, hbl, h⟩ := geometricAdd_cases ha hb
  have e : Tq (a.geometricAdd b) - (Tq a + Tq b) = rnd (F := F) (val a.rem + val b.rem) - (val a.rem + val b.rem)
      + (val (a.geometricAdd b).rem + k * val (qp : F) - rnd (F := F) (val a.rem + val b.rem)) := by
    unfold Tq; rw [hbl]; push_cast; ring
  rw [e]
  rcases h with h | ⟨rfl, h0, hn⟩
  · rw [h, sub_add_cancel, sub_self, add_zero]
    exact ⟨hc.trans (lt_add_of_pos_left _ he), Or.inr hc⟩
  · refine ⟨?_, Or.inl h0⟩
    rw [h0, zero_add, Nat.cast_one, one_mul]
    rw [abs_sub_comm] at hn
    exact lt_of_le_of_lt (abs_add_le _ _) ((add_lt_add hc hn).trans_eq (add_comm _ _))

theorem geometricAdd_nocarry_rem {a b : Angle F} (ha : a.Inv) (hb : b.Inv)
    (hnc : (a.geometricAdd b).blade = a.blade + b.blade) :
    val b.rem ≤ val (a.geometricAdd b).rem ∧ val a.rem ≤ val (a.geometricAdd b).rem := by
  obtain ⟨_, k, _, hbl, h⟩ := geometricAdd_cases ha hb
  obtain rfl : k = 0 := by omega
  obtain h | h := h
  · rw [h, Nat.cast_zero, zero_mul, sub_zero]
    exact ⟨le_rnd (rep_val hb.1) (le_add_of_nonneg_left ha.2.1), le_rnd (rep_val ha.1) (le_add_of_nonneg_right hb.2.1)⟩
  · exact absurd h.1 zero_ne_one

theorem add_whole {a z : Angle F} (ha : a.Inv) (hzf : Fin z.rem) (hz0 : val z.rem = 0) :
    (a.geometricAdd z).blade = a.blade + z.blade ∧ Fin (a.geometricAdd z).rem ∧
      val (a.geometricAdd z).rem = val a.rem := by
  obtain ⟨hi, k, hk, hbl, h⟩ := geometricAdd_cases ha (inv_of_val_zero hzf hz0)
  rw [hz0, add_zero, rnd_val ha.1] at h
  have he := val_e10_pos (F := F)
  -- a carry is impossible: it would leave the remainder `rem a − π/2 < 0`, or need `rem a` within `1e-10` of `π/2`
  interval_cases k
  · exact ⟨hbl, hi.1, by simpa using h⟩
  · rcases h with h | ⟨_, _, h⟩
    · rw [Nat.cast_one, one_mul] at h
      linarith only [hi.2.1, ha.2.2, h, he]
    · linarith only [(abs_lt.mp h).1, ha.2.2]

theorem whole_add {a z : Angle F} (ha : a.Inv) (hzf : Fin z.rem) (hz0 : val z.rem = 0) :
    (z.geometricAdd a).blade = z.blade + a.blade ∧ Fin (z.geometricAdd a).rem ∧
      val (z.geometricAdd a).rem = val a.rem := by
  rw [geometricAdd_comm hzf ha.1, Nat.add_comm z.blade a.blade]
  exact add_whole ha hzf hz0

end Angle
end GeonumModel
