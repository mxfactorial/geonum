/-
  GeonumModel.Lemmas.AngleNewTotal — the general path of `Angle::new` in rounded arithmetic, on the domain `NewDom`: the value chain of
  the raw total `p·π/d` (either order of operations) with its accuracy, the value chain of the negative path, and from them the
  invariant of every result (`new_inv`) and its float total up to the snap (`newGeneral_total`).
-/
import GeonumModel.Lemmas.AngleNew
import GeonumModel.Lemmas.RndErr

namespace GeonumModel
open FloatLike FloatSpec
variable {F : Type} [FloatSpec F]

namespace Angle

/-- the domain on which `Angle::new(p, d)` is analysed.  `q_le` covers the properties' `|2p/d| ≤ 2^40` (which gives `2^41·π/4`);
    `p_le` and `d_ge` keep the product `p·π` and the quotients inside the contract's `InRange` (asserted up to `1e250`) -/
structure NewDom (p d : F) : Prop where
  fin_p : Fin p
  fin_d : Fin d
  p_le : |val p| ≤ 10 ^ 200
  d_ge : 1 / 10 ^ 200 ≤ |val d|
  q_le : |val p * piV F / val d| ≤ 2 ^ 42

theorem NewDom.d_ne {p d : F} (h : NewDom p d) : val d ≠ 0 :=
  abs_pos.mp (lt_of_lt_of_le (by positivity) h.d_ge)

theorem scaled_spec {p d : F} (h : NewDom p d) :
    Fin (fmul p (FloatLike.pi : F)) ∧ val (fmul p (FloatLike.pi : F)) = rnd (F := F) (val p * piV F) ∧
    |rnd (F := F) (val p * piV F) / val d| ≤ 2 ^ 42 + 2 := by
  have hpi4 := piV_lt4 (F := F); have hpi0 := piV_pos (F := F)
  have hppi : |val p * piV F| ≤ 10 ^ 250 := by
    rw [abs_mul, abs_of_pos hpi0]
    exact (mul_le_mul h.p_le hpi4.le hpi0.le (by positivity)).trans (by norm_num)
  obtain ⟨hf1, hv1⟩ := fmul_spec h.fin_p (fin_pi (F := F)) (by rw [val_pi]; exact inRange_of_le hppi)
  rw [val_pi] at hv1
  refine ⟨hf1, hv1, ?_⟩
  have hb := approx_abs_le (approx_div (val d) (rnd_rel (F := F) (val p * piV F)))
  -- the absolute error `2⁻¹⁰⁷⁵/|d|` is below 1
  have ht : (1:ℝ) / 2 ^ 1075 / |val d| ≤ 1 := by
    rw [div_le_one (lt_of_lt_of_le (by positivity) h.d_ge)]
    have t2 : (1:ℝ) / 10 ^ 300 ≤ 1 / 10 ^ 200 :=
      one_div_le_one_div_of_le (by positivity) (pow_le_pow_right₀ (by norm_num) (by norm_num))
    exact le_trans tiny_1075_300 (le_trans t2 h.d_ge)
  have hq := mul_le_mul_of_nonneg_right h.q_le (show (0:ℝ) ≤ 1 + 1 / 2 ^ 53 by positivity)
  have : (2:ℝ) ^ 42 * (1 + 1 / 2 ^ 53) ≤ 2 ^ 42 + 1 := by norm_num
  linarith

/-- either order of operations (fix 1409e77): `(p·π)/d` when the product is a normal number, `(p/d)·π` otherwise -/
theorem newRawTotal_val {p d : F} (h : NewDom p d) :
    Fin (newRawTotal p d) ∧
    ((1 / 2 ^ 1022 ≤ |rnd (F := F) (val p * piV F)| ∧
        val (newRawTotal p d) = rnd (F := F) (rnd (F := F) (val p * piV F) / val d)) ∨
      val (newRawTotal p d) = rnd (F := F) (rnd (F := F) (val p / val d) * piV F)) := by
  obtain ⟨hf1, hv1, hx1d⟩ := scaled_spec h
  unfold newRawTotal
  simp only
  by_cases hnorm : FloatLike.isNormal (fmul p (FloatLike.pi : F)) = true
  · rw [if_pos hnorm]
    obtain ⟨hf2, hv2⟩ := fdiv_spec hf1 h.fin_d h.d_ne (by
      rw [hv1]; exact inRange_of_abs_le_2p60 (le_trans hx1d (by norm_num)))
    rw [hv1] at hv2
    exact ⟨hf2, Or.inl ⟨by rw [← hv1]; exact (isNormal_spec hf1).mp hnorm, hv2⟩⟩
  · rw [if_neg hnorm]
    have hpi3 := piV_gt3 (F := F); have hpi4 := piV_lt4 (F := F)
    have hpd : |val p / val d| ≤ 2 ^ 41 := by
      have hq := h.q_le
      rw [mul_div_right_comm, abs_mul, abs_of_pos (piV_pos (F := F))] at hq
      linarith [mul_le_mul_of_nonneg_left hpi3.le (abs_nonneg (val p / val d))]
    obtain ⟨hf3, hv3⟩ := fdiv_spec h.fin_p h.fin_d h.d_ne (inRange_of_abs_le_2p60 (le_trans hpd (by norm_num)))
    have hy : |val (fdiv p d)| ≤ 2 ^ 41 := by rw [hv3]; exact abs_rnd_le (rep_two_pow (by norm_num)) hpd
    obtain ⟨hf4, hv4⟩ := fmul_spec hf3 (fin_pi (F := F)) (by
      rw [val_pi]; apply inRange_of_abs_le_2p60
      rw [abs_mul, abs_of_pos (piV_pos (F := F))]
      calc |val (fdiv p d)| * piV F ≤ 2 ^ 41 * 4 := mul_le_mul hy hpi4.le (by linarith) (by positivity)
        _ ≤ 2 ^ 60 := by norm_num)
    rw [val_pi, hv3] at hv4
    exact ⟨hf4, Or.inr hv4⟩

/-- two roundings in either order, about the rounding function alone.  In the first order the product is a normal number, so its
    rounding carries no absolute error (which the division by `D` would magnify without bound) -/
theorem rawTotal_real {P D r π x : ℝ} (hπ0 : 0 < π) (hπ4 : π ≤ 4)
    (hx : (1 / 2 ^ 1022 ≤ |rnd (F := F) P| ∧ x = rnd (F := F) (rnd (F := F) P / D)) ∨
      (x = rnd (F := F) (rnd (F := F) r * π) ∧ P / D = r * π)) :
    |x - P / D| ≤ |P / D| * (8 / 2 ^ 53) + 1 / 2 ^ 1070 := by
  have hq0 := abs_nonneg (P / D)
  have ht0 : (0:ℝ) ≤ 1 / 2 ^ 1075 := by positivity
  rw [two_pow_1070, show (8:ℝ) / 2 ^ 53 = 8 * (1 / 2 ^ 53) by ring]
  have hu0 : (0:ℝ) ≤ 1 / 2 ^ 53 := by positivity
  have hu1 : 3 * ((1:ℝ) / 2 ^ 53) ≤ 1 := by norm_num
  rcases hx with ⟨hN, rfl⟩ | ⟨rfl, hq⟩
  · have h1 : |rnd (F := F) P - P| ≤ |P| * (3 * (1 / 2 ^ 53)) + 0 := by rw [add_zero]; exact rnd_rel_normal hN
    have h := rnd_step (F := F) hu1 (by rw [zero_div]) (approx_div D h1)
    rw [zero_div] at h
    have := mul_nonneg hq0 hu0
    generalize (1:ℝ) / 2 ^ 53 = u at *; generalize (1:ℝ) / 2 ^ 1075 = t at *
    linarith
  · have h := rnd_step (F := F) (le_trans (by linarith) hu1) (mul_nonneg ht0 (abs_nonneg π))
      (approx_mul π (rnd_rel (F := F) r))
    rw [← hq, abs_of_pos hπ0] at h
    have := mul_nonneg hq0 hu0
    have := mul_le_mul_of_nonneg_left hπ4 ht0
    generalize (1:ℝ) / 2 ^ 53 = u at *; generalize (1:ℝ) / 2 ^ 1075 = t at *
    linarith

theorem rawTotal_accuracy {p d : F} (h : NewDom p d) :
    |val (newRawTotal p d) - val p * piV F / val d| ≤ |val p * piV F / val d| * (8 / 2 ^ 53) + 1 / 2 ^ 1070 :=
  rawTotal_real (piV_pos (F := F)) (piV_lt4 (F := F)).le
    ((newRawTotal_val h).2.imp id fun hv => ⟨hv, mul_div_right_comm _ _ _⟩)

theorem newRawTotal_spec {p d : F} (h : NewDom p d) : Fin (newRawTotal p d) ∧ |val (newRawTotal p d)| ≤ 2 ^ 43 := by
  refine ⟨(newRawTotal_val h).1, ?_⟩
  have hb := approx_abs_le (rawTotal_accuracy h)
  have hq := mul_le_mul_of_nonneg_right h.q_le (show (0:ℝ) ≤ 1 + 8 / 2 ^ 53 by positivity)
  have : (2:ℝ) ^ 42 * (1 + 8 / 2 ^ 53) + 1 ≤ 2 ^ 43 := by norm_num
  have : (1:ℝ) / 2 ^ 1070 ≤ 1 := by rw [div_le_one (by positivity)]; exact one_le_pow₀ (by norm_num)
  linarith

theorem newRawTotal_nonneg {p d : F} (h : NewDom p d) (hX : 0 ≤ val p * piV F / val d) : 0 ≤ val (newRawTotal p d) := by
  have hpi := piV_pos (F := F)
  rcases (newRawTotal_val h).2 with ⟨_, hv⟩ | hv <;> rw [hv]
  · exact rnd_nonneg (div_rnd_nonneg hX)
  · rw [mul_div_right_comm] at hX
    exact rnd_nonneg (mul_nonneg (rnd_nonneg ((mul_nonneg_iff_of_pos_right hpi).mp hX)) hpi.le)

theorem newTotal_of_nonneg {p d : F} (hf : Fin (newRawTotal p d)) (h : 0 ≤ val (newRawTotal p d)) :
    newTotal p d = newRawTotal p d := by
  have : flt (newRawTotal p d) (zero : F) = false := by
    rw [Bool.eq_false_iff, Ne, flt_spec hf fin_zero, val_zero]; exact not_lt.mpr h
  unfold newTotal; simp [this]

/-- the negative path, for any finite total `-2^43 ≤ t < 0`: `n = ⌈rnd(−t / 2π_f)⌉` whole turns are added.  Of the five operations the
    divisor `4·(π_f/2) = 2π_f` and the count `4n` are exact; the quotient, the shift `4n·(π_f/2)` and the sum round -/
theorem negShift_spec {t : F} (ht : Fin t) (hneg : val t < 0) (hb : -(2 ^ 43) ≤ val t) :
    ∃ n : ℕ, rnd (F := F) (-val t / (2 * piV F)) ≤ (n : ℝ) ∧ (n : ℝ) < rnd (F := F) (-val t / (2 * piV F)) + 1 ∧
      Fin (fmax (fadd t (fmul (fmul (FloatLike.ceil (fdiv (fabs t) (fmul four (qp : F)))) four) qp)) zero) ∧
      val (fmax (fadd t (fmul (fmul (FloatLike.ceil (fdiv (fabs t) (fmul four (qp : F)))) four) qp)) zero) =
        max (rnd (F := F) (val t + rnd (F := F) ((n : ℝ) * 4 * val (qp : F)))) 0 ∧
      val (fmax (fadd t (fmul (fmul (FloatLike.ceil (fdiv (fabs t) (fmul four (qp : F)))) four) qp)) zero) ≤ 2 ^ 44 := by
  have hpi3 := piV_gt3 (F := F); have hpi4 := piV_lt4 (F := F)
  obtain ⟨hfa, hva⟩ := fabs_spec ht
  rw [abs_of_neg hneg] at hva
  -- 4·qp = 2π_f exactly
  have htp : (0:ℝ) < 2 * piV F := by linarith only [hpi3]
  obtain ⟨hf4, hv4⟩ := fmul_rep (v := 2 * piV F) (fin_four (F := F)) (fin_qp (F := F)) (by rw [val_four, val_qp]; ring)
    (by simpa using rep_mul_piV_pow2 (F := F) 1 (by norm_num))
    (inRange_of_abs_le_1000 (by rw [abs_of_pos htp]; linarith only [hpi4]))
  -- the quotient |t| / 2π_f is in [0, 2^41], and so is its rounding
  have hqt0 : 0 ≤ -val t / (2 * piV F) := div_nonneg (neg_nonneg.mpr hneg.le) htp.le
  have hqt1 : -val t / (2 * piV F) ≤ 2 ^ 41 := by
    rw [div_le_iff₀ htp]; linarith only [hb, hpi3]
  obtain ⟨hf5, hv5⟩ := fdiv_spec hfa hf4 (by rw [hv4]; exact htp.ne') (by
    rw [hva, hv4]; apply inRange_of_abs_le_2p60; rw [abs_of_nonneg hqt0]; exact le_trans hqt1 (by norm_num))
  rw [hva, hv4] at hv5
  have hy50 : 0 ≤ val (fdiv (fabs t) (fmul four (qp : F))) := by rw [hv5]; exact rnd_nonneg hqt0
  have hy51 : val (fdiv (fabs t) (fmul four (qp : F))) ≤ 2 ^ 41 := by rw [hv5]; exact rnd_le (rep_two_pow (by norm_num)) hqt1
  -- its ceiling, as a natural number
  obtain ⟨hf6, hv6⟩ := ceil_spec hf5
  obtain ⟨n, hn⟩ : ∃ n : ℕ, (n : ℤ) = ⌈val (fdiv (fabs t) (fmul four (qp : F)))⌉ :=
    ⟨_, Int.toNat_of_nonneg (Int.ceil_nonneg hy50)⟩
  have hn1 : (n : ℝ) ≤ 2 ^ 41 := by
    have : (n : ℤ) ≤ 2 ^ 41 := by rw [hn]; exact Int.ceil_le.mpr (by rw [Int.cast_pow, Int.cast_ofNat]; exact hy51)
    exact_mod_cast this
  rw [← hn] at hv6
  refine ⟨n, ?_, ?_, ?_⟩
  · rw [← hv5]; exact_mod_cast hn ▸ Int.le_ceil _
  · rw [← hv5]; exact_mod_cast hn ▸ Int.ceil_lt_add_one _
  -- full·4 = 4n exactly
  obtain ⟨hf7, hv7⟩ := fmul_int (n := 4) hf6 (fin_four (F := F)) hv6 (by rw [val_four]; norm_cast) (by
    have : n ≤ 2 ^ 41 := by exact_mod_cast hn1
    rw [abs_of_nonneg (by positivity)]; omega)
  push_cast at hv7
  have hn4 : (n : ℝ) * 4 ≤ 2 ^ 43 := by linarith only [hn1]
  -- the shift 4n·qp, in [0, 2^44]
  have hqp := val_qp_gt (F := F); have hqp' := val_qp_lt (F := F)
  have hz0 : 0 ≤ (n : ℝ) * 4 * val (qp : F) := by positivity
  have hz1 : (n : ℝ) * 4 * val (qp : F) ≤ 2 ^ 44 := by
    calc (n : ℝ) * 4 * val (qp : F) ≤ 2 ^ 43 * 2 := mul_le_mul hn4 hqp'.le (by linarith only [hqp]) (by positivity)
      _ = 2 ^ 44 := by norm_num
  obtain ⟨hf8, hv8⟩ := fmul_spec hf7 (fin_qp (F := F)) (by
    rw [hv7]; apply inRange_of_abs_le_2p60; rw [abs_of_nonneg hz0]; exact le_trans hz1 (by norm_num))
  rw [hv7] at hv8
  have hy80 := rnd_nonneg (F := F) hz0
  have hy81 := rnd_le (F := F) (rep_two_pow (by norm_num)) hz1
  obtain ⟨hf9, hv9⟩ := fadd_spec ht hf8 (by
    rw [hv8]; exact inRange_of_abs_le_2p60 (abs_le.mpr ⟨by linarith only [hb, hy80], by linarith only [hneg, hy81]⟩))
  obtain ⟨hf10, hv10⟩ := fmax_spec hf9 (fin_zero (F := F))
  rw [hv10, hv9, hv8, val_zero]
  exact ⟨hf10, rfl, max_le (rnd_le (rep_two_pow (by norm_num)) (by linarith only [hneg, hy81])) (by positivity)⟩

theorem newTotal_neg_formula {p d : F} (h : NewDom p d) (hneg : val (newRawTotal p d) < 0) :
    ∃ n : ℕ, rnd (F := F) (-val (newRawTotal p d) / (2 * piV F)) ≤ (n : ℝ) ∧
      (n : ℝ) < rnd (F := F) (-val (newRawTotal p d) / (2 * piV F)) + 1 ∧
      Fin (newTotal p d) ∧
      val (newTotal p d) = max (rnd (F := F) (val (newRawTotal p d) + rnd (F := F) ((n : ℝ) * 4 * val (qp : F)))) 0 ∧
      val (newTotal p d) ≤ 2 ^ 44 := by
  obtain ⟨hf, hb⟩ := newRawTotal_spec h
  have : newTotal p d = fmax (fadd (newRawTotal p d) (fmul (fmul (FloatLike.ceil (fdiv (fabs (newRawTotal p d))
      (fmul four (qp : F)))) four) qp)) zero :=
    if_pos ((flt_spec hf fin_zero).mpr (by rwa [val_zero]))
  rw [this]
  exact negShift_spec hf hneg (abs_le.mp hb).1

theorem newTotal_spec {p d : F} (h : NewDom p d) :
    Fin (newTotal p d) ∧ 0 ≤ val (newTotal p d) ∧ val (newTotal p d) ≤ 2 ^ 48 := by
  obtain ⟨hf, hb⟩ := newRawTotal_spec h
  rcases lt_or_ge (val (newRawTotal p d)) 0 with hneg | hnn
  · obtain ⟨n, _, _, hfin, hv, hub⟩ := newTotal_neg_formula h hneg
    exact ⟨hfin, hv ▸ le_max_right _ _, hub.trans (by norm_num)⟩
  · rw [newTotal_of_nonneg hf hnn]
    exact ⟨hf, hnn, le_trans (le_trans (le_abs_self _) hb) (by norm_num)⟩

theorem new_eq_general {p d : F} (hfast : (feq d two && feq (FloatLike.fract p) zero) = false) :
    Angle.new p d = newGeneral p d := by
  unfold Angle.new; rw [hfast]; rfl

theorem newGeneral_total {p d : F} (h : NewDom p d) :
    (newGeneral p d).Inv ∧ |Tq (newGeneral p d) - val (newTotal p d)| < val (e10 : F) := by
  obtain ⟨hf, h0, h1⟩ := newTotal_spec h
  obtain ⟨hinv, hcase⟩ := newCore_spec (newTotal p d) hf h0 h1
  refine ⟨hinv, ?_⟩
  unfold Tq
  rcases hcase with ⟨_, hdec⟩ | ⟨_, hrem, hsn⟩
  · exact (congrArg (fun x => |x - val (newTotal p d)|) hdec).trans_lt (by rw [sub_self, abs_zero]; exact val_e10_pos)
  · exact (congrArg (fun x => |_ + x - val (newTotal p d)|) hrem).trans_lt (by rw [add_zero]; exact hsn)

/-- **every `Angle::new` result satisfies the invariant** (in particular its remainder is finite and in `[0, π/2)`), on either path
    and for either sign of `p/d` -/
theorem new_inv {p d : F} (hp : Fin p) (hd : Fin d) (hpb : |val p| ≤ 10 ^ 200)
    (hdl : 1 / 10 ^ 200 ≤ |val d|) (hq : |val p * piV F / val d| ≤ 2 ^ 42) :
    (Angle.new p d).Inv := by
  unfold Angle.new
  split
  · exact inv_zero _
  · exact (newGeneral_total ⟨hp, hd, hpb, hdl, hq⟩).1

end Angle
end GeonumModel
