/-
  GeonumModel.Lemmas.FloatNew — accuracy of `Angle::new(p, d)` in rounded arithmetic, the float total of the result against `X = p·π_f/d`:
  for `X ≥ 0` it is `X` to within the snap plus four ulps (hence `blade = ⌊2p/d⌋` away from the quarter-turn boundaries); for
  `X < 0` it is `X` plus whole turns, at most one turn up; then the instances `Angle::new(x, PI)` that every internal re-encoding uses.
-/
import GeonumModel.Lemmas.AngleNewTotal

set_option linter.unusedVariables false

namespace GeonumModel
open FloatLike FloatSpec
variable {F : Type} [FloatSpec F]
namespace Angle

theorem newGeneral_total_float {p d : F} (h : NewDom p d) (hX0 : 0 ≤ val p * piV F / val d) :
    (newGeneral p d).Inv ∧
    |Tq (newGeneral p d) - val p * piV F / val d| < val (e10 : F) + val p * piV F / val d * (8 / 2 ^ 53) + 1 / 2 ^ 1070 := by
  have hacc := rawTotal_accuracy h
  obtain ⟨hinv, hsnap⟩ := newGeneral_total h
  rw [newTotal_of_nonneg (newRawTotal_spec h).1 (newRawTotal_nonneg h hX0)] at hsnap
  rw [abs_of_nonneg hX0] at hacc
  exact ⟨hinv, (abs_sub_lt_add hsnap hacc).trans_eq (add_assoc _ _ _).symm⟩

/-- (B, C02) the float total `blade·(π_f/2) + rem` against `p·π_f/d`, on either path -/
theorem new_total_float {p d : F} (hp : Fin p) (hd : Fin d) (hpb : |val p| ≤ 10 ^ 200)
    (hdl : 1 / 10 ^ 200 ≤ |val d|) (hq : |val p * piV F / val d| ≤ 2 ^ 42) (hp0 : 0 ≤ val p) (hd0 : 0 < val d) :
    (Angle.new p d).Inv ∧
    |Tq (Angle.new p d) - val p * piV F / val d| < val (e10 : F) + val p * piV F / val d * (8 / 2 ^ 53) + 1 / 2 ^ 1070 := by
  have hX0 : 0 ≤ val p * piV F / val d := div_nonneg (mul_nonneg hp0 (piV_pos (F := F)).le) hd0.le
  by_cases hfast : (feq d two && feq (FloatLike.fract p) zero) = true
  · -- exact quarter turns: `d = 2`, `p` a non-negative integer, and the total is `p·π_f/2` exactly
    have hp3 := piV_gt3 (F := F)
    obtain ⟨hdf, hd2, i, hi⟩ := fast_args hp hd hfast
    obtain ⟨n, rfl⟩ := Int.eq_ofNat_of_zero_le (by rw [hi] at hp0; exact_mod_cast hp0 : 0 ≤ i)
    rw [Int.cast_natCast] at hi
    have hlt : n < 2 ^ 64 := by
      rw [abs_of_nonneg hX0, hd2, hi] at hq
      have : (n : ℝ) < 2 ^ 64 := by linarith [mul_le_mul_of_nonneg_left hp3.le (Nat.cast_nonneg (α := ℝ) n)]
      exact_mod_cast this
    rw [new_two_of_nat hdf hp hi hlt]
    refine ⟨inv_zero _, ?_⟩
    have hTq : Tq (⟨zero, n⟩ : Angle F) = val p * piV F / val d := by
      unfold Tq; simp only; rw [hi, val_zero, val_qp, hd2]; ring
    rw [hTq, sub_self, abs_zero]
    have := val_e10_pos (F := F)
    positivity
  · rw [new_eq_general (by simpa using hfast)]
    exact newGeneral_total_float ⟨hp, hd, hpb, hdl, hq⟩ hX0

/-- (B, C02) `blade = ⌊2p/d⌋` except within the margin of `new_total_float` of a quarter-turn boundary, where the neighbouring count with
    the matching remainder is returned -/
theorem new_blade_float {p d : F} (hp : Fin p) (hd : Fin d) (hpb : |val p| ≤ 10 ^ 200)
    (hdl : 1 / 10 ^ 200 ≤ |val d|) (hq : |val p * piV F / val d| ≤ 2 ^ 42) (hp0 : 0 ≤ val p) (hd0 : 0 < val d) (n : ℕ)
    (hlo : (n : ℝ) * val (qp : F) + (val (e10 : F) + val p * piV F / val d * (8 / 2 ^ 53) + 1 / 2 ^ 1070) ≤ val p * piV F / val d)
    (hhi : val p * piV F / val d + (val (e10 : F) + val p * piV F / val d * (8 / 2 ^ 53) + 1 / 2 ^ 1070) ≤ ((n : ℝ) + 1) * val (qp : F)) :
    (Angle.new p d).blade = n := by
  obtain ⟨⟨_, hr0, hr1⟩, htq⟩ := new_total_float hp hd hpb hdl hq hp0 hd0
  have hqpos : (0:ℝ) < val (qp : F) := lt_trans (by norm_num) val_qp_gt
  have he := val_e10_pos (F := F)
  rw [abs_lt] at htq
  unfold Tq at htq
  generalize (Angle.new p d).blade = b at *
  generalize val (e10 : F) + val p * piV F / val d * (8 / 2 ^ 53) + 1 / 2 ^ 1070 = μ at *
  -- b·qp ≤ Tq < (n+1)·qp  and  n·qp < Tq < (b+1)·qp
  have h1 : (b : ℝ) < (n : ℝ) + 1 := lt_of_mul_lt_mul_right (by linarith only [htq.2, hr0, hhi]) hqpos.le
  have h2 : (n : ℝ) < (b : ℝ) + 1 := lt_of_mul_lt_mul_right (by linarith only [htq.1, hr1, he, hlo]) hqpos.le
  have h1n : b < n + 1 := by exact_mod_cast h1
  have h2n : n < b + 1 := by exact_mod_cast h2
  omega

/-- real arithmetic of the negative path: `a = −raw > 0`, `P = 4·qp`, `W = n·P` the exact shift, `S` its rounding,
    `r` the rounded sum, clamped at zero -/
theorem neg_path_real {a P ε τ W S z r : ℝ} (ha : 0 < a) (hP0 : 0 < P) (hP : P ≤ 8) (hε0 : 0 < ε) (hε1 : ε ≤ 1 / 10)
    (hτ0 : 0 < τ) (hτ1 : τ ≤ 1 / 100)
    (hWlo : a - (a * ε + P * τ) ≤ W) (hWhi : W ≤ a + a * ε + P * τ + P) (hW0 : 0 ≤ W)
    (hS : |S - W| ≤ W * ε + τ) (hz : z = -a + S) (hr : |r - z| ≤ |z| * ε + τ) (hsign : 0 ≤ z → 0 ≤ r) :
    |max r 0 - (-a + W)| ≤ (5 * a + 40) * ε + 10 * τ := by
  have haε0 : 0 ≤ a * ε := mul_nonneg ha.le hε0.le
  have haε : a * ε ≤ a * (1 / 10) := mul_le_mul_of_nonneg_left hε1 ha.le
  have hPτ : P * τ ≤ 8 * τ := mul_le_mul_of_nonneg_right hP hτ0.le
  have hWle : W ≤ 2 * a + 9 := by linarith only [hWhi, haε, hPτ, hτ1, hP, ha]
  have hWε : W * ε ≤ (2 * a + 9) * ε := mul_le_mul_of_nonneg_right hWle hε0.le
  have h29 : (2 * a + 9) * ε ≤ (2 * a + 9) * (1 / 10) := mul_le_mul_of_nonneg_left hε1 (by linarith only [ha])
  subst hz
  rw [abs_le] at hS hr
  -- the rounded sum `-a + S` is the exact `-a + W` to within `(2a + 9)ε + τ`, hence at most `3a + 20` in size
  have hzabs : |-a + S| ≤ 3 * a + 20 :=
    abs_le.mpr ⟨by linarith only [hS.1, hW0, hWε, h29, hτ1, ha], by linarith only [hS.2, hWle, hWε, h29, hτ1, ha]⟩
  have hzε := mul_le_mul_of_nonneg_right hzabs hε0.le
  rw [abs_le]
  rcases le_or_gt 0 r with hr0 | hr0
  · rw [max_eq_left hr0]
    constructor <;> linarith only [hr.1, hr.2, hS.1, hS.2, hzε, hWε, haε0, hε0, hτ0]
  · -- clamped: the sum itself is negative, and the exact `-a + W` is no lower than `-(aε + Pτ)`
    rw [max_eq_right hr0.le]
    have hzneg : -a + S < 0 := lt_of_not_ge fun hc => absurd (hsign hc) (not_le.mpr hr0)
    constructor <;> linarith only [hzneg, hS.1, hS.2, hWlo, hPτ, hWε, haε0, hε0, hτ0]

theorem tiny72 : 72 * ((1:ℝ) / 2 ^ 1075) ≤ 1 / 10 ^ 300 := by
  have e : (1:ℝ) / 2 ^ 1068 = 128 * (1 / 2 ^ 1075) := by
    rw [show (1075:ℕ) = 1068 + 7 by norm_num, pow_add]; field_simp; norm_num
  have h := tiny_pow (n := 1068) (by norm_num)
  have h0 : (0:ℝ) ≤ 1 / 2 ^ 1075 := by positivity
  rw [e] at h
  linarith only [h, h0]

/-- the negative path from the raw total to the clamped sum, about real variables: `X` the exact quotient, `raw` its float value, `y` the
    rounded number of turns and `n` its ceiling, `S` the rounded shift, `r` the rounded sum; `θ` collects the absolute errors -/
theorem neg_total_real {X raw P ε τ θ n y S r : ℝ} (hX : X < 0) (hraw : raw < 0) (hP0 : 0 < P) (hP : P ≤ 8)
    (hε0 : 0 < ε) (hε1 : ε ≤ 1 / 10 ^ 15) (hτ0 : 0 < τ) (hτ1 : τ ≤ 1 / 100) (hθ : 72 * τ ≤ θ)
    (hacc : |raw - X| ≤ |X| * (8 * ε) + 32 * τ)
    (hy : |y - -raw / P| ≤ |-raw / P| * ε + τ) (hyn : y ≤ n) (hny : n < y + 1) (hn0 : 0 ≤ n)
    (hS : |S - n * P| ≤ |n * P| * ε + τ) (hr : |r - (raw + S)| ≤ |raw + S| * ε + τ) (hsign : 0 ≤ raw + S → 0 ≤ r) :
    |max r 0 - (X + n * P)| ≤ (14 * |X| + 46) * ε + θ ∧ X + n * P ≤ P + |X| * (10 * ε) + θ := by
  obtain ⟨a, rfl⟩ : ∃ a, raw = -a := ⟨-raw, (neg_neg raw).symm⟩
  have ha0 : 0 < a := neg_lt_zero.mp hraw
  have hW0 : 0 ≤ n * P := mul_nonneg hn0 hP0.le
  rw [abs_of_nonneg hW0] at hS
  -- the exact shift `n·P` is `a` to within one turn and the rounding of the turn count
  have hyP := approx_mul P hy
  rw [neg_neg, div_mul_cancel₀ a hP0.ne', abs_of_pos ha0, abs_of_pos hP0, abs_le] at hyP
  have hWlo : a - (a * ε + P * τ) ≤ n * P := by linarith only [hyP.1, mul_le_mul_of_nonneg_right hyn hP0.le]
  have hWhi : n * P ≤ a + a * ε + P * τ + P := by linarith only [hyP.2, mul_lt_mul_of_pos_right hny hP0]
  have hkey := neg_path_real ha0 hP0 hP hε0 (hε1.trans (by norm_num)) hτ0 hτ1 hWlo hWhi hW0 hS rfl hr hsign
  -- `a` is `|X|` to within a hundredth, by the accuracy of the raw total
  rw [abs_le] at hacc hkey
  have hXε : 0 ≤ |X| * ε := mul_nonneg (abs_nonneg X) hε0.le
  have hXε8 : |X| * ε ≤ |X| * (1 / 800) := mul_le_mul_of_nonneg_left (hε1.trans (by norm_num)) (abs_nonneg X)
  have hale : a ≤ 101 / 100 * |X| + 32 * τ := by linarith only [hacc.1, abs_of_neg hX, hXε8]
  have haε := mul_le_mul_of_nonneg_right hale hε0.le
  have hτε : τ * ε ≤ τ * (1 / 100) := mul_le_mul_of_nonneg_left (hε1.trans (by norm_num)) hτ0.le
  have hPτ : P * τ ≤ 8 * τ := mul_le_mul_of_nonneg_right hP hτ0.le
  constructor
  · rw [abs_le]
    constructor <;> linarith only [hkey.1, hkey.2, hacc.1, hacc.2, haε, hτε, hXε, hε0, hτ0, hθ]
  · linarith only [hacc.1, hWhi, hPτ, haε, hτε, hXε, hτ0, hθ]

/-- `X = p·π_f/d < 0` on the general path, any divisor.  The second clause bounds `X + n·2π_f` by one turn: a forward rotation, at most
    one turn more than needed.  The exact fast path (`d = 2`, integral `p`) is `new_negInt_two`. -/
theorem new_total_neg_float {p d : F} (h : NewDom p d) (hX0 : val p * piV F / val d < 0)
    (hfast : (feq d two && feq (FloatLike.fract p) zero) = false) :
    (Angle.new p d).Inv ∧
    ∃ n : ℕ, |Tq (Angle.new p d) - (val p * piV F / val d + (n : ℝ) * (4 * val (qp : F)))|
      < val (e10 : F) + (14 * |val p * piV F / val d| + 46) * (1 / 2 ^ 53) + 1 / 10 ^ 300 ∧
      val p * piV F / val d + (n : ℝ) * (4 * val (qp : F))
        ≤ 4 * val (qp : F) + |val p * piV F / val d| * (10 * (1 / 2 ^ 53)) + 1 / 10 ^ 300 := by
  rw [new_eq_general hfast]
  obtain ⟨hinv, hsnap⟩ := newGeneral_total h
  refine ⟨hinv, ?_⟩
  have hacc := rawTotal_accuracy h
  rw [show (8:ℝ) / 2 ^ 53 = 8 * (1 / 2 ^ 53) by ring, two_pow_1070] at hacc
  have h72 := tiny72
  have hτ0 : (0:ℝ) < 1 / 2 ^ 1075 := by positivity
  have hq0 := val_qp_gt (F := F)
  have hXε := mul_nonneg (abs_nonneg (val p * piV F / val d)) (show (0:ℝ) ≤ 1 / 2 ^ 53 by positivity)
  rcases lt_or_ge (val (newRawTotal p d)) 0 with hrn | hrn
  · obtain ⟨n, hyn, hny, _, hnt, _⟩ := newTotal_neg_formula h hrn
    rw [show 2 * piV F = 4 * val (qp : F) by rw [val_qp]; ring] at hyn hny
    rw [mul_assoc] at hnt
    rw [hnt] at hsnap
    obtain ⟨h1, h2⟩ := neg_total_real hX0 hrn (by linarith only [hq0]) (by linarith only [val_qp_lt (F := F)])
      (by positivity) (by norm_num) hτ0 (tiny_1075.trans (by norm_num)) h72
      hacc (rnd_rel _) hyn hny (Nat.cast_nonneg n) (rnd_rel (F := F) _) (rnd_rel (F := F) _) rnd_nonneg
    exact ⟨n, (abs_sub_lt_add hsnap h1).trans_eq (add_assoc _ _ _).symm, h2⟩
  · -- the raw total rounded to zero (`|X|` below the subnormal range): no turn is added
    rw [newTotal_of_nonneg (newRawTotal_spec h).1 hrn] at hsnap
    refine ⟨0, ?_, ?_⟩ <;> simp only [Nat.cast_zero, zero_mul, add_zero]
    · exact (abs_sub_lt_add hsnap hacc).trans_le (by linarith only [h72, hτ0, hXε])
    · linarith only [hX0, hq0, hXε, h72, hτ0]

/-! ### `Angle::new(x, PI)`, "radians in" -/

theorem newDom_radians {x : F} (hx : Fin x) (hb : |val x| ≤ 2 ^ 41) :
    NewDom x (FloatLike.pi : F) ∧ val x * piV F / val (FloatLike.pi : F) = val x := by
  have hp3 := piV_gt3 (F := F)
  have hxx : val x * piV F / val (FloatLike.pi : F) = val x := by
    rw [val_pi, mul_div_assoc, div_self (by linarith : piV F ≠ 0), mul_one]
  refine ⟨⟨hx, fin_pi, ?_, ?_, ?_⟩, hxx⟩
  · exact hb.trans (by norm_num)
  · rw [val_pi, abs_of_pos (by linarith)]
    exact (by norm_num : (1:ℝ) / 10 ^ 200 ≤ 3).trans hp3.le
  · rw [hxx]; exact le_trans hb (by norm_num)

theorem feq_pi_two : (feq (FloatLike.pi : F) two) = false := by
  rw [Bool.eq_false_iff, Ne, feq_spec (fin_pi (F := F)) fin_two, val_pi, val_two]
  have := piV_gt3 (F := F); linarith

theorem new_radians_inv {x : F} (hx : Fin x) (hb : |val x| ≤ 2 ^ 41) : (Angle.new x (FloatLike.pi : F)).Inv :=
  have h := (newDom_radians hx hb).1
  new_inv hx fin_pi h.p_le h.d_ge h.q_le

theorem new_radians_total {x : F} (hx : Fin x) (hx0 : 0 ≤ val x) (hb : val x ≤ 2 ^ 41) :
    (Angle.new x (FloatLike.pi : F)).Inv ∧
    |Tq (Angle.new x (FloatLike.pi : F)) - val x| < val (e10 : F) + val x * (8 / 2 ^ 53) + 1 / 2 ^ 1070 := by
  obtain ⟨h, hxx⟩ := newDom_radians hx (by rwa [abs_of_nonneg hx0])
  have := new_total_float hx fin_pi h.p_le h.d_ge h.q_le hx0 (by rw [val_pi]; exact piV_pos)
  rwa [hxx] at this

/-- (B, C02/C14) `new_total_neg_float` at `d = π` -/
theorem new_radians_total_neg {x : F} (hx : Fin x) (hx0 : val x < 0) (hb : -(2 ^ 41) ≤ val x) :
    (Angle.new x (FloatLike.pi : F)).Inv ∧
    ∃ n : ℕ, |Tq (Angle.new x (FloatLike.pi : F)) - (val x + (n : ℝ) * (4 * val (qp : F)))|
      < val (e10 : F) + (14 * |val x| + 46) * (1 / 2 ^ 53) + 1 / 10 ^ 300 ∧
      val x + (n : ℝ) * (4 * val (qp : F)) ≤ 4 * val (qp : F) + |val x| * (10 * (1 / 2 ^ 53)) + 1 / 10 ^ 300 := by
  obtain ⟨h, hxx⟩ := newDom_radians hx (by rw [abs_of_neg hx0]; linarith)
  have := new_total_neg_float h (by rwa [hxx]) (by simp [feq_pi_two])
  rwa [hxx] at this

/-- either sign: the float total is `x` plus a whole number of turns (none for `x ≥ 0`) -/
theorem new_radians_abs {x : F} (hx : Fin x) (hb : |val x| ≤ 2 ^ 41) :
    ∃ n : ℕ, |Tq (Angle.new x (FloatLike.pi : F)) - (val x + (n : ℝ) * (4 * val (qp : F)))|
      < val (e10 : F) + (14 * |val x| + 46) * (1 / 2 ^ 53) + 1 / 10 ^ 300 := by
  rcases le_or_gt 0 (val x) with h | h
  · have htq := (new_radians_total hx h (by rwa [abs_of_nonneg h] at hb)).2
    refine ⟨0, ?_⟩
    rw [Nat.cast_zero, zero_mul, add_zero, abs_of_nonneg h]
    have h1070 : (1:ℝ) / 2 ^ 1070 ≤ 1 / 10 ^ 300 := tiny_pow (by norm_num)
    have := mul_nonneg h (show (0:ℝ) ≤ 1 / 2 ^ 53 by positivity)
    linarith only [htq, h1070, this]
  · obtain ⟨n, htq, _⟩ := (new_radians_total_neg hx h (by rw [abs_of_neg h] at hb; linarith only [hb])).2
    exact ⟨n, htq⟩

theorem new_radians_upper {x : F} (hx : Fin x) (hb : |val x| ≤ 2 ^ 41) (h4 : val x ≤ 4 * val (qp : F)) :
    Tq (Angle.new x (FloatLike.pi : F))
      < 4 * val (qp : F) + val (e10 : F) + (24 * |val x| + 46) * (1 / 2 ^ 53) + 2 * (1 / 10 ^ 300) := by
  have hxε : 0 ≤ |val x| * (1 / 2 ^ 53) := by positivity
  have h300 : (0:ℝ) ≤ 1 / 10 ^ 300 := by positivity
  rcases le_or_gt 0 (val x) with h | h
  · have htq := (abs_lt.mp (new_radians_total hx h (by rwa [abs_of_nonneg h] at hb)).2).2
    rw [abs_of_nonneg h]
    rw [abs_of_nonneg h] at hxε
    linarith only [htq, hxε, h300, h4, (tiny_pow (by norm_num) : (1:ℝ) / 2 ^ 1070 ≤ 1 / 10 ^ 300)]
  · obtain ⟨n, htq, hup⟩ := (new_radians_total_neg hx h (by rw [abs_of_neg h] at hb; linarith)).2
    linarith only [(abs_lt.mp htq).2, hup, hxε, h300]

end Angle
end GeonumModel
