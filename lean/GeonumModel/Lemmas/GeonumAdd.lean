/-
  GeonumModel.Lemmas.GeonumAdd — branch structure of `impl Add for Geonum` (geonum_mod.rs:713), for any arithmetic: names for its
  tests and for the subterms of the general branch, the literal result of each branch, and the case analysis `add_cases`.
-/
import GeonumModel.Model.Geonum

namespace GeonumModel
open FloatLike
namespace Geonum
variable {F : Type} [FloatLike F]

/-- the two angle tests, in source order -/
def sameAngle (a b : Geonum F) : Bool := a.angle.beq b.angle
def oppositeAngle (a b : Geonum F) : Bool :=
  (a.angle.add (Angle.new one one)).beq b.angle || (b.angle.add (Angle.new one one)).beq a.angle

/-- radicand of the general branch, as associated in the source -/
def radicand (a b : Geonum F) : F :=
  fadd (fadd (fmul a.mag a.mag) (fmul b.mag b.mag))
       (fmul (fmul (fmul two a.mag) b.mag) (FloatLike.cos (fsub b.angle.gradeAngle a.angle.gradeAngle)))

/-- numerator / denominator of the direction of the general branch, as associated in the source -/
def oppSum (a b : Geonum F) : F :=
  fadd (fmul a.mag (FloatLike.sin a.angle.gradeAngle)) (fmul b.mag (FloatLike.sin b.angle.gradeAngle))
def adjSum (a b : Geonum F) : F :=
  fadd (fmul a.mag (FloatLike.cos a.angle.gradeAngle)) (fmul b.mag (FloatLike.cos b.angle.gradeAngle))

/-- the angle handed to `new_with_blade` in the general branch: `atan2(Σ opp, Σ adj) − (cb·π)/2` -/
def adjusted (a b : Geonum F) : F :=
  fsub (FloatLike.atan2 (oppSum a b) (adjSum a b)) (fdiv (fmul (FloatLike.ofNat (a.angle.blade + b.angle.blade)) pi) two)

theorem add_same (a b : Geonum F) (h : sameAngle a b = true) : a.add b = ⟨fadd a.mag b.mag, a.angle⟩ := by
  unfold Geonum.add; unfold sameAngle at h; simp [h]

theorem add_opposite_cancel (a b : Geonum F) (h1 : sameAngle a b = false) (h2 : oppositeAngle a b = true)
    (h3 : flt (fabs (fsub a.mag b.mag)) e10 = true) :
    a.add b = ⟨zero, Angle.newWithBlade (a.angle.blade + b.angle.blade) zero one⟩ := by
  unfold Geonum.add; unfold sameAngle at h1; unfold oppositeAngle at h2; simp [h1, h2, h3]

theorem add_opposite_first (a b : Geonum F) (h1 : sameAngle a b = false) (h2 : oppositeAngle a b = true)
    (h3 : flt (fabs (fsub a.mag b.mag)) e10 = false) (h4 : flt zero (fsub a.mag b.mag) = true) :
    a.add b = ⟨fsub a.mag b.mag, a.angle⟩ := by
  unfold Geonum.add; unfold sameAngle at h1; unfold oppositeAngle at h2; simp [h1, h2, h3, h4]

theorem add_opposite_second (a b : Geonum F) (h1 : sameAngle a b = false) (h2 : oppositeAngle a b = true)
    (h3 : flt (fabs (fsub a.mag b.mag)) e10 = false) (h4 : flt zero (fsub a.mag b.mag) = false) :
    a.add b = ⟨fneg (fsub a.mag b.mag), b.angle⟩ := by
  unfold Geonum.add; unfold sameAngle at h1; unfold oppositeAngle at h2; simp [h1, h2, h3, h4]

theorem add_general (a b : Geonum F) (h1 : sameAngle a b = false) (h2 : oppositeAngle a b = false) :
    a.add b = Geonum.newWithBlade (sqrt (fmax (radicand a b) zero)) (a.angle.blade + b.angle.blade) (adjusted a b) pi := by
  unfold Geonum.add; unfold sameAngle at h1; unfold oppositeAngle at h2
  simp only [h1, h2, Bool.false_eq_true, if_false]
  rfl

theorem add_general_mag (a b : Geonum F) (h1 : sameAngle a b = false) (h2 : oppositeAngle a b = false) :
    (a.add b).mag = sqrt (fmax (radicand a b) zero) := by
  rw [add_general a b h1 h2]; rfl

@[elab_as_elim]
theorem add_cases {P : Geonum F → Prop} (a b : Geonum F)
    (same : sameAngle a b = true → P ⟨fadd a.mag b.mag, a.angle⟩)
    (cancel : sameAngle a b = false → oppositeAngle a b = true → flt (fabs (fsub a.mag b.mag)) e10 = true →
      P ⟨zero, Angle.newWithBlade (a.angle.blade + b.angle.blade) zero one⟩)
    (first : sameAngle a b = false → oppositeAngle a b = true → flt (fabs (fsub a.mag b.mag)) e10 = false →
      flt zero (fsub a.mag b.mag) = true → P ⟨fsub a.mag b.mag, a.angle⟩)
    (second : sameAngle a b = false → oppositeAngle a b = true → flt (fabs (fsub a.mag b.mag)) e10 = false →
      flt zero (fsub a.mag b.mag) = false → P ⟨fneg (fsub a.mag b.mag), b.angle⟩)
    (general : sameAngle a b = false → oppositeAngle a b = false →
      P ⟨sqrt (fmax (radicand a b) zero), Angle.newWithBlade (a.angle.blade + b.angle.blade) (adjusted a b) pi⟩) :
    P (a.add b) := by
  cases h1 : sameAngle a b
  · cases h2 : oppositeAngle a b
    · rw [add_general a b h1 h2]; exact general h1 h2
    · cases h3 : flt (fabs (fsub a.mag b.mag)) e10
      · cases h4 : flt zero (fsub a.mag b.mag)
        · rw [add_opposite_second a b h1 h2 h3 h4]; exact second h1 h2 h3 h4
        · rw [add_opposite_first a b h1 h2 h3 h4]; exact first h1 h2 h3 h4
      · rw [add_opposite_cancel a b h1 h2 h3]; exact cancel h1 h2 h3
  · rw [add_same a b h1]; exact same h1

end Geonum
end GeonumModel
